import OhkamiModel.TimeSpec
/-! C20, rendering: `into_imf_fixdate` writes 29 bytes through unchecked indexing; the model keeps the two ways it
    could go wrong (`get_unchecked` out of the name tables, a write count other than the buffer length); `TimeRenderProofs.lean`
    shows that neither happens and that the text is the RFC 9110 IMF-fixdate of the fields (`imfSpec`). -/
namespace Ohkami.Time
open Ohkami.Gen.Time

inductive RenderOut where
  | ok (bs : List UInt8)
  | ub (site : String)
deriving Repr, DecidableEq

-- `fill!(@100> b)`: two decimal digits in `u8` arithmetic (debug builds assert `b < 100`)
def two (n : Nat) : List UInt8 := [(48 + n / 10).toUInt8, (48 + n % 10).toUInt8]

def render (F : Fields) : RenderOut :=
  match SHORT_WEEKDAYS_B[F.wday]?, SHORT_MONTHS_B[F.monthIdx]? with
  | some wd, some mo =>
    let bs := wd ++ [44, 32] ++ (if F.day < 10 then [48, (48 + F.day).toUInt8] else two F.day) ++ [32] ++ mo ++ [32]
      ++ two (F.year / 100) ++ two (F.year % 100) ++ [32] ++ two F.hour ++ [58] ++ two F.min ++ [58] ++ two F.sec
      ++ [32, 71, 77, 84]
    if bs.length = 29 then .ok bs else .ub "buf: write count differs from IMF_FIXDATE_LEN"
  | _, _ => .ub "get_unchecked: name table"

/-! spec: RFC 9110 §5.6.7 -/
-- `w` decimal digits of `n`, most significant first, zero padded (positional notation itself, no printer)
def dec (w n : Nat) : List UInt8 := (List.range w).reverse.map fun i => (48 + n / 10 ^ i % 10).toUInt8
def dayName : Nat → List UInt8
  | 0 => [83, 117, 110] | 1 => [77, 111, 110] | 2 => [84, 117, 101] | 3 => [87, 101, 100]
  | 4 => [84, 104, 117] | 5 => [70, 114, 105] | _ => [83, 97, 116]
def monthName : Nat → List UInt8
  | 0 => [74, 97, 110] | 1 => [70, 101, 98] | 2 => [77, 97, 114] | 3 => [65, 112, 114] | 4 => [77, 97, 121]
  | 5 => [74, 117, 110] | 6 => [74, 117, 108] | 7 => [65, 117, 103] | 8 => [83, 101, 112] | 9 => [79, 99, 116]
  | 10 => [78, 111, 118] | _ => [68, 101, 99]
def imfSpec (F : Fields) : List UInt8 :=
  dayName F.wday ++ [44, 32] ++ dec 2 F.day ++ [32] ++ monthName F.monthIdx ++ [32] ++ dec 4 F.year ++ [32]
    ++ dec 2 F.hour ++ [58] ++ dec 2 F.min ++ [58] ++ dec 2 F.sec ++ [32, 71, 77, 84]

-- RFC 9110's own example, through the model
example : render (fields 784111777) = .ok "Sun, 06 Nov 1994 08:49:37 GMT".toUTF8.toList := by decide +kernel

end Ohkami.Time
