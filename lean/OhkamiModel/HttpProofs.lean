import OhkamiModel.HttpStages
/-! C02, faithfulness: a request as what its bytes denote (`Req`, `encode`, `view`), the well-formed ones (`WF`), and the parser reading them back. -/
namespace Ohkami.Http
open Ohkami.P

structure Req where
  method : Bytes
  path : Bytes
  query : Option Bytes
  headers : List (Bytes × Bytes)
  body : Bytes

def encodeTarget (r : Req) : Bytes := r.path ++ (match r.query with | some q => QM :: q | none => [])

def encode (r : Req) : Bytes :=
  r.method ++ SP :: (encodeTarget r ++ SP :: (HTTP11 ++ (encodeHeaders r.headers ++ [CR, LF] ++ r.body)))

def WFH (kv : Bytes × Bytes) : Prop := WFHeader kv ∧ validUtf8 kv.1 = true ∧ validUtf8 kv.2 = true ∧ isName kv.1 = true ∧ isValue kv.2 = true

structure WF (r : Req) (mname : String) : Prop where
  method : methodOf r.method = some mname
  method_nosp : ∀ b ∈ r.method, b ≠ SP
  path_slash : r.path.head? = some SLASH
  path_chars : ∀ b ∈ r.path, b ≠ SP ∧ b ≠ QM
  path_utf8 : validUtf8 r.path = true
  query_chars : ∀ q, r.query = some q → ∀ b ∈ q, b ≠ SP
  headers : ∀ kv ∈ r.headers, WFH kv
  -- the body is announced by exactly one Content-Length header (any spelling, any decimal rendering) iff it is not empty
  cl : (foldHeaders r.headers).1.find? (·.1 = Gen.contentLengthIndex) =
        (if r.body = [] then none else (foldHeaders r.headers).1.find? (·.1 = Gen.contentLengthIndex))
  cl_some : r.body ≠ [] → ∃ v, (foldHeaders r.headers).1.find? (·.1 = Gen.contentLengthIndex) = some (Gen.contentLengthIndex, v)
      ∧ v.isEmpty = false ∧ v.all isDigit = true ∧ decimal v = r.body.length
  body_small : r.body.length < PAYLOAD_LIMIT

def view (r : Req) (mname : String) : Parsed :=
  ⟨mname, if r.path.getLast? == some SLASH then r.path.dropLast else r.path, r.query,
   (foldHeaders r.headers).1, (foldHeaders r.headers).2, if r.body = [] then none else some r.body⟩

theorem LineOK.of_WFH {kv : Bytes × Bytes} (h : WFH kv) : LineOK kv := by
  obtain ⟨⟨hk0, hk, hv⟩, hu1, hu2, hnm, hval⟩ := h
  exact ⟨fun b hb => (hk b hb).1, hv, hu1, hu2, consume_crlf_name hk0 fun b hb => (hk b hb).2, hnm, hval⟩

theorem announced_of_WF (r : Req) (mname : String) (h : WF r mname) :
    announced (foldHeaders r.headers).1 = .ok (if r.body = [] then none else some r.body.length) := by
  unfold announced
  by_cases hb : r.body = []
  · have := h.cl
    rw [if_pos hb] at this
    rw [this, if_pos hb]
  · obtain ⟨v, hv, hne, hdig, hdec⟩ := h.cl_some hb
    have hlen : 0 < r.body.length := List.length_pos_iff.mpr hb
    have hsmall := h.body_small
    have hus : ¬ (r.body.length > USIZE_MAX) := by unfold USIZE_MAX; unfold PAYLOAD_LIMIT at hsmall; omega
    have h0 : ¬ (r.body.length = 0) := by omega
    have hlim : ¬ (r.body.length ≥ PAYLOAD_LIMIT) := by omega
    simp only [hv, hne, hdig, hdec, Bool.false_or, Bool.not_true, Bool.false_eq_true, if_false, hus, h0, hlim, hb]

theorem finish_encode (r : Req) (mname : String) (h : WF r mname) (more np : Bytes) (query : Option Bytes) :
    finish mname np query (encodeHeaders r.headers ++ [CR, LF] ++ r.body) more =
      .ok ⟨mname, np, query, (foldHeaders r.headers).1, (foldHeaders r.headers).2, if r.body = [] then none else some r.body⟩ := by
  rw [finish_shape r.headers fun kv hkv => .of_WFH (h.headers kv hkv)]
  unfold body
  rw [announced_of_WF r mname h]
  by_cases hb : r.body = []
  · simp only [hb, if_true]
  · simp only [hb, if_false, List.length_append, Nat.le_add_right, if_true, List.take_left']

/-- C02, faithfulness: every well-formed request, given to `read` in one piece, comes out as exactly what it denotes -/
theorem parse_encode (r : Req) (mname : String) (h : WF r mname) (more : Bytes) :
    parse (encode r) more = .ok (view r mname) := by
  have hr : RequestLine (encode r) mname (if r.path.getLast? == some SLASH then r.path.dropLast else r.path) r.query
      (encodeHeaders r.headers ++ [CR, LF] ++ r.body) :=
    ⟨r.method, r.path, rfl, h.method, h.method_nosp, h.path_slash, h.path_chars, h.path_utf8, rfl, h.query_chars⟩
  rw [parse_shape hr, finish_encode r mname h]
  rfl

end Ohkami.Http
