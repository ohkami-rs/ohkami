import OhkamiModel.TimeProofs
/-! C20, date part: the fields that `into_imf_fixdate` prints are the Gregorian date, weekday and time of day of the timestamp
    (`fields_correct`): the packed `Date`/`Of`/`Mdf` words taken apart by arithmetic, the three tables through their facts. -/
namespace Ohkami.Time
open Ohkami.Gen.Time

/-! `Date(i32)` is `(year << 13) | of`, `Of` is `(ordinal << 4) | flags`, `Mdf` is `(month << 9) | (day << 4) | flags`:
    the shifts and masks as arithmetic -/
theorem ofNew_eq (ord f : Nat) (hf : f < 16) : ofNew ord f = 16 * ord + f := by
  rw [ofNew, ← Nat.shiftLeft_add_eq_or_of_lt (by simpa using hf), Nat.shiftLeft_eq]; omega
theorem pack_eq (year of_ : Nat) (h : of_ < 8192) : pack year of_ = 8192 * year + of_ := by
  rw [pack, ← Nat.shiftLeft_add_eq_or_of_lt (by simpa using h), Nat.shiftLeft_eq]; omega
theorem unpackOf_eq (date : Nat) : unpackOf date = date % 8192 := Nat.and_two_pow_sub_one_eq_mod date 13
theorem unpackYear_eq (date : Nat) : unpackYear date = date / 8192 := Nat.shiftRight_eq_div_pow date 13
theorem weekdayArg_eq (of_ : Nat) : weekdayArg of_ = of_ / 16 + of_ % 8 := by
  rw [weekdayArg, Nat.shiftRight_eq_div_pow, show (7 : Nat) = 2 ^ 3 - 1 from rfl, Nat.and_two_pow_sub_one_eq_mod]
theorem mdfOf_eq (of_ : Nat) : mdfOf of_ = of_ + 8 * OL_TO_MDL.getD (of_ / 8) 0 := by
  rw [mdfOf, olOf, Nat.shiftRight_eq_div_pow, Nat.shiftLeft_eq, Nat.mul_comm]
theorem mdfMonth_eq (mdf : Nat) : mdfMonth mdf = mdf / 512 := Nat.shiftRight_eq_div_pow mdf 9
theorem mdfDay_eq (mdf : Nat) : mdfDay mdf = mdf / 16 % 32 := by
  rw [mdfDay, Nat.shiftRight_eq_div_pow, show (31 : Nat) = 2 ^ 5 - 1 from rfl, Nat.and_two_pow_sub_one_eq_mod]

theorem weekdayOfMod7_id (n : Nat) : weekdayOfMod7 n = n % 7 := by
  unfold weekdayOfMod7
  have : ∀ k : Fin 7, [0, 1, 2, 3, 4, 5, 6].getD k.val 0 = k.val := by decide
  exact this ⟨n % 7, Nat.mod_lt _ (by decide)⟩

theorem unpack_pack (year ord f : Nat) (hf : f < 16) (hof : 16 * ord + f < 8192) :
    unpackYear (pack year (ofNew ord f)) = year ∧ unpackOf (pack year (ofNew ord f)) = 16 * ord + f := by
  rw [ofNew_eq _ _ hf, pack_eq _ _ hof, unpackYear_eq, unpackOf_eq]; omega

theorem wday_of (ord f : Nat) (hf : f < 16) :
    numDaysFromSunday (weekdayOfMod7 (weekdayArg (16 * ord + f))) = (ord + f % 8 + 1) % 7 := by
  rw [weekdayArg_eq, weekdayOfMod7_id, numDaysFromSunday]; omega

theorem mdf_of (ord f : Nat) :
    mdfMonth (mdfOf (16 * ord + f)) = (2 * ord + f / 8 + OL_TO_MDL.getD (2 * ord + f / 8) 0) / 64 ∧
    mdfDay (mdfOf (16 * ord + f)) = (2 * ord + f / 8 + OL_TO_MDL.getD (2 * ord + f / 8) 0) / 2 % 32 := by
  rw [mdfOf_eq, mdfMonth_eq, mdfDay_eq, show (16 * ord + f) / 8 = 2 * ord + f / 8 by omega]
  generalize OL_TO_MDL.getD (2 * ord + f / 8) 0 = T
  omega

theorem hms_eq (t : Nat) : hms (secsOf t) = (t % 86400 / 3600, t % 3600 / 60, t % 60) := by
  simp only [hms, secsOf, Prod.mk.injEq]; omega

/-- Day `d` (0000-01-01 = day 1, up to 9999-12-31) is the `ord`-th day of the `ym`-th year of its 400-year cycle: the cycle, then `cycle_to_yo` -/
theorem year_ordinal (d : Nat) (hd : d < 3652425) :
    ∃ ym ord, Gen.Time.cycleToYo (cycleOf d) = (ym, ord) ∧ ym < 400 ∧ 1 ≤ ord ∧ ord ≤ 365 + (if isLeap ym then 1 else 0)
      ∧ 146097 * yearDiv400 d + daysBeforeYear ym + ord = d + 1 ∧ 400 * yearDiv400 d + ym ≤ 9999 := by
  have h := cycleToYo_spec (cycleOf d) (Nat.mod_lt _ (by decide))
  generalize Gen.Time.cycleToYo (cycleOf d) = yo at h ⊢
  obtain ⟨hym, hord1, hord2, hceq⟩ := h
  have hcd : d = 146097 * yearDiv400 d + cycleOf d := (Nat.div_add_mod d 146097).symm
  rw [leaps_succ] at hord2
  refine ⟨yo.1, yo.2, rfl, hym, hord1, by omega, ?_, by unfold yearDiv400; omega⟩
  rw [daysBeforeYear]; omega

/-- `ol`, the ordinal with the leap bit of the flag below it, is an index of `OL_TO_MDL`, and its low bit tells the leap year;
    the `Of` word fits its 13 bits -/
theorem ol_facts (ord f : Nat) (leap : Bool) (hf : f < 16) (hl : decide (f < 8) = leap) (h1 : 1 ≤ ord)
    (h2 : ord ≤ 365 + if leap then 1 else 0) :
    2 ≤ 2 * ord + f / 8 ∧ 2 * ord + f / 8 ≤ 732 ∧ ((2 * ord + f / 8) % 2 == 0) = leap ∧ (2 * ord + f / 8) / 2 = ord
      ∧ 16 * ord + f < 8192 := by
  subst hl
  by_cases h8 : f < 8 <;> simp [h8] at h2 ⊢ <;> omega

/-- the weekday bits `w` of the year's flag place the ordinal in the week (a 400-year cycle is a whole number of weeks) -/
theorem weekday_eq (n yd D ord w : Nat) (hdn : 146097 * yd + D + ord = n + 719163 + 365 + 1) (hw : w % 7 = (4 + D) % 7) :
    (ord + w + 1) % 7 = (n + 4) % 7 := by omega

theorem fields_correct (t : Nat) (ht : t ≤ 253402300799) :
    let F := fields t
    ValidDate F.year (F.monthIdx + 1) F.day
    ∧ dayNumber F.year (F.monthIdx + 1) F.day = t / 86400 + (719163 + 365 + 1)
    ∧ F.wday = (t / 86400 + 4) % 7
    ∧ F.year ≤ 9999
    ∧ F.hour = t % 86400 / 3600 ∧ F.min = t % 3600 / 60 ∧ F.sec = t % 60 := by
  have hd : shifted (dateArg (daysOf t)) = t / 86400 + 719163 + 365 := rfl
  obtain ⟨ym, ord, hyo, hym, hord1, hord2, hdn, hyear⟩ := year_ordinal (t / 86400 + 719163 + 365) (by omega)
  -- the year flag: bit 3 clear = leap year; the low three bits fix the weekday
  obtain ⟨hf16, hfleap, hfw⟩ := yearFlag_spec ym hym
  have hflag : flagOf ym = YEAR_TO_FLAG.getD ym 0 := by rw [flagOf, Nat.mod_eq_of_lt hym]
  generalize YEAR_TO_FLAG.getD ym 0 = f at hf16 hfleap hfw hflag
  obtain ⟨hol2, hol732, holbit, holdiv, hof⟩ := ol_facts ord f _ hf16 hfleap hord1 hord2
  -- month and day from the table
  obtain ⟨hm1, hm12, hd1, hdlen, hsum⟩ := olToMdl_spec (2 * ord + f / 8) hol2 hol732
  rw [holbit] at hdlen hsum
  rw [holdiv] at hsum
  simp only [fields, hd, hyo, hflag, yearOf, unpack_pack _ ord f hf16 hof, mdf_of, wday_of _ _ hf16, hms_eq]
  generalize (2 * ord + f / 8 + OL_TO_MDL.getD (2 * ord + f / 8) 0) / 64 = m at hm1 hm12 hdlen hsum
  generalize (2 * ord + f / 8 + OL_TO_MDL.getD (2 * ord + f / 8) 0) / 2 % 32 = day at hd1 hdlen hsum
  rw [Nat.sub_add_cancel hm1, ValidDate, dayNumber, Nat.mul_comm _ 400, isLeap_400, daysBeforeYear_400, Nat.add_assoc _ _ day, hsum, hdn]
  exact ⟨⟨hm1, hm12, hd1, hdlen⟩, rfl, weekday_eq _ _ _ ord _ hdn hfw, hyear, trivial, trivial, trivial⟩
end Ohkami.Time
