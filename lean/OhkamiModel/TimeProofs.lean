import OhkamiModel.TimeTables
import OhkamiModel.Days
/-! C20: the leap-year count (`leaps_succ`, `daysBeforeYear_400`, `isLeap_400`) and the translated `cycle_to_yo` as the closed form of `Days.lean`. -/
namespace Ohkami.Time
open Ohkami.Gen.Time

/-- ⌈(y+1)/k⌉ = ⌈y/k⌉ + [k ∣ y], with `k = n + 1` -/
theorem ceilDiv_succ (y n : Nat) : (y + 1 + n) / (n + 1) = (y + n) / (n + 1) + if y % (n + 1) = 0 then 1 else 0 := by
  rw [Nat.add_right_comm, Nat.succ_div]
  simp only [Nat.dvd_iff_mod_eq_zero, Nat.add_assoc y n 1, Nat.add_mod_right]

theorem leaps_succ (y : Nat) : leaps (y + 1) = leaps y + (if isLeap y then 1 else 0) := by
  have hle : (y + 99) / 100 ≤ (y + 3) / 4 := by omega
  have c1 : y % 400 = 0 → y % 100 = 0 := by omega
  have c2 : y % 100 = 0 → y % 4 = 0 := by omega
  -- each quotient steps where its divisor divides `y` (`ceilDiv_succ`); with the quotients named, only the four consistent
  -- divisibility cases are left
  simp only [leaps, isLeap, ceilDiv_succ, Bool.and_eq_true, Bool.or_eq_true, beq_iff_eq, bne_iff_ne]
  generalize (y + 3) / 4 = a at hle ⊢
  generalize (y + 99) / 100 = b at hle ⊢
  by_cases d4 : y % 4 = 0
  · by_cases d100 : y % 100 = 0
    · by_cases d400 : y % 400 = 0 <;> simp [d4, d100, d400] <;> omega
    · simp [d4, d100, mt c1 d100]; omega
  · simp [d4, mt c2 d4, mt c1 (mt c2 d4)]

/-- a 400-year cycle has 146097 days -/
theorem daysBeforeYear_400 (yd ym : Nat) : daysBeforeYear (400 * yd + ym) = 146097 * yd + daysBeforeYear ym := by
  unfold daysBeforeYear leaps; omega

theorem isLeap_400 (yd ym : Nat) : isLeap (400 * yd + ym) = isLeap ym := by
  rw [isLeap, isLeap, show (400 * yd + ym) % 4 = ym % 4 by omega, show (400 * yd + ym) % 100 = ym % 100 by omega,
    Nat.mul_add_mod_self_left]

theorem cycleToYo_eq (c : Nat) (hc : c < 146097) : Gen.Time.cycleToYo c = _root_.cycleToYo c := by
  have hb := delta_bound (c / 365 - 1) (by omega)
  simp only [Gen.Time.cycleToYo, _root_.cycleToYo, ym0, ord0, ordBase, yearDeltas_eq (c / 365) (by omega),
    yearDeltas_eq (c / 365 - 1) (by omega)]
  show (if _ ≤ delta _ then (_, _ + (365 - delta _)) else _) = _
  split
  · rw [Nat.add_sub_assoc (by omega)]
  · rfl

-- `leaps` and `delta` are the same closed form, so the statement of `Days.lean` transports as it is
theorem cycleToYo_spec (c : Nat) (hc : c < 146097) :
    (Gen.Time.cycleToYo c).1 < 400 ∧ 1 ≤ (Gen.Time.cycleToYo c).2
      ∧ (Gen.Time.cycleToYo c).2 + leaps (Gen.Time.cycleToYo c).1 ≤ 365 + leaps ((Gen.Time.cycleToYo c).1 + 1)
      ∧ c + 1 = 365 * (Gen.Time.cycleToYo c).1 + leaps (Gen.Time.cycleToYo c).1 + (Gen.Time.cycleToYo c).2 :=
  cycleToYo_eq c hc ▸ _root_.cycleToYo_spec c hc
end Ohkami.Time
