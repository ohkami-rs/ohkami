/-! C20, `num::hexized` (`num.rs:1-21`): big-endian bytes, two nibbles each, a `match` whose last arm is
    `unreachable_unchecked()`. -/
namespace Ohkami.Num

def beBytes (n : Nat) : List Nat := (List.range 8).reverse.map fun i => n / 256 ^ i % 256     -- `usize::to_be_bytes`, 64-bit
def nibbles (n : Nat) : List Nat := (beBytes n).flatMap fun b => [b >>> 4, b &&& 15]
-- `h + match h { 0..=9 => b'0', 10..=15 => b'a' - 10, _ => unreachable_unchecked() }`
def hexChar (h : Nat) : Nat := if h ≤ 9 then 48 + h else 87 + h
def hexized (n : Nat) : List Nat := (nibbles n).map hexChar

-- spec: sixteen hexadecimal digits, most significant first, lower case
def hx (d : Nat) : Nat := "0123456789abcdef".toList.map Char.toNat |>.getD d 0
def hexSpec (n : Nat) : List Nat := (List.range 16).reverse.map fun i => hx (n / 16 ^ i % 16)

theorem pow_256 (i : Nat) : 256 ^ i = 16 ^ (2 * i) := by rw [Nat.pow_mul]

theorem nibble_hi (n i : Nat) : (n / 256 ^ i % 256) >>> 4 = n / 16 ^ (2 * i + 1) % 16 := by
  rw [Nat.shiftRight_eq_div_pow, pow_256, Nat.pow_succ 16, ← Nat.div_div_eq_div_mul]
  exact Nat.mod_mul_right_div_self (n / 16 ^ (2 * i)) 16 16
theorem nibble_lo (n i : Nat) : (n / 256 ^ i % 256) &&& 15 = n / 16 ^ (2 * i) % 16 := by
  rw [pow_256]
  exact (Nat.and_two_pow_sub_one_eq_mod _ 4).trans (Nat.mod_mod_of_dvd _ ⟨16, rfl⟩)

theorem nibbles_eq (n : Nat) :
    nibbles n = (List.range 8).reverse.flatMap fun i => [n / 16 ^ (2 * i + 1) % 16, n / 16 ^ (2 * i) % 16] := by
  simp only [nibbles, beBytes, List.flatMap_map, nibble_hi, nibble_lo]

/-- the unreachable arm is unreachable -/
theorem hexized_safe (n : Nat) : ∀ h ∈ nibbles n, h ≤ 15 := by
  intro h hh
  simp only [nibbles_eq, List.mem_flatMap, List.mem_cons, List.not_mem_nil, or_false] at hh
  obtain ⟨i, _, rfl | rfl⟩ := hh <;> omega

theorem hexChar_eq : ∀ h : Fin 16, hexChar h.val = hx h.val := by decide

theorem hexized_exact (n : Nat) : hexized n = hexSpec n := by
  have hc : ∀ m, hexChar (m % 16) = hx (m % 16) := fun m => hexChar_eq ⟨m % 16, Nat.mod_lt _ (by decide)⟩
  simp only [hexized, nibbles_eq, hexSpec, List.map_flatMap, List.map_cons, List.map_nil, hc]
  -- sixteen digits, two per byte: both sides are the same list once `List.range` is evaluated
  rfl

-- one of the repository's own test values, through the model
example : (hexized 314).dropWhile (· = 48) = "13a".toList.map Char.toNat := by decide +kernel

end Ohkami.Num
