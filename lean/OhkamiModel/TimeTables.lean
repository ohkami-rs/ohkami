import OhkamiModel.TimeSpec
/-! C20: what the three generated tables of `time.rs` hold, each checked by the kernel in one pass along the table. -/
namespace Ohkami.Time
open Ohkami.Gen.Time

/-- A fact checked entry by entry along a table holds of every look-up in it. (Stating the check over `zipIdx` lets the
    kernel walk the list once; `∀ i : Fin n, P i (l.getD i d)` walks it once per entry.) -/
theorem table_getD {α} {P : Nat → α → Prop} {l : List α} {n : Nat} (h : l.length = n ∧ ∀ p ∈ l.zipIdx, P p.2 p.1)
    (d : α) {i : Nat} (hi : i < n) : P i (l.getD i d) := by
  obtain ⟨hn, h⟩ := h
  subst hn
  rw [List.getD_eq_getElem?_getD, List.getElem?_eq_getElem hi]
  exact h (l[i], i) (List.mk_mem_zipIdx_iff_getElem?.mpr (List.getElem?_eq_getElem hi))

theorem yearDeltas_eq (y : Nat) (h : y ≤ 400) : YEAR_DELTAS.getD y 0 = leaps y :=
  table_getD (P := fun y x => x = leaps y) (by decide +kernel) 0 (Nat.lt_succ_of_le h)

-- flag: bit 3 set = common year; the low three bits place the year's first day in the week
theorem yearFlag_spec (y : Nat) (h : y < 400) :
    YEAR_TO_FLAG.getD y 0 < 16 ∧ decide (YEAR_TO_FLAG.getD y 0 < 8) = isLeap y
      ∧ YEAR_TO_FLAG.getD y 0 % 8 % 7 = (4 + daysBeforeYear y) % 7 :=
  table_getD (P := fun y f => f < 16 ∧ decide (f < 8) = isLeap y ∧ f % 8 % 7 = (4 + daysBeforeYear y) % 7)
    (by decide +kernel) 0 h

/-- `OL_TO_MDL[ol] = t` is right: for `ol = 2 * ordinal + (1 in a common year)`, `ol + t` packs the month (`/ 64`) and the day
    of the month (`/ 2 % 32`) of that ordinal -/
abbrev MdlEntry (ol t : Nat) : Prop :=
  1 ≤ (ol + t) / 64 ∧ (ol + t) / 64 ≤ 12 ∧ 1 ≤ (ol + t) / 2 % 32 ∧ (ol + t) / 2 % 32 ≤ monthLen (ol % 2 == 0) ((ol + t) / 64)
    ∧ daysBeforeMonth (ol % 2 == 0) ((ol + t) / 64) + (ol + t) / 2 % 32 = ol / 2

theorem olToMdl_spec (ol : Nat) (h2 : 2 ≤ ol) (h : ol ≤ 732) : MdlEntry ol (OL_TO_MDL.getD ol 0) :=
  table_getD (P := fun ol t => 2 ≤ ol → MdlEntry ol t) (by decide +kernel) 0 (Nat.lt_succ_of_le h) h2

end Ohkami.Time
