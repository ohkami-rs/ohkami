/-! C20: chrono's `cycle_to_yo` in closed form — the day of a 400-year cycle split into year and ordinal, with `delta y` = leap days
    before year `y` — and what it computes (`cycleToYo_spec`).  `TimeProofs.lean` shows that the translated function with its generated
    table is this one. -/
def delta (y : Nat) : Nat := (y + 3) / 4 - (y + 99) / 100 + (y + 399) / 400

theorem delta_mono (y : Nat) : delta y ≤ delta (y+1) := by
  unfold delta; omega

theorem delta_bound (y : Nat) (h : y ≤ 400) : delta y ≤ 97 := by
  unfold delta; omega

def cycleToYo (c : Nat) : Nat × Nat :=
  let y0 := c / 365
  let o := c % 365 + 1
  let d := delta y0
  if o ≤ d then (y0 - 1, o + 365 - delta (y0 - 1)) else (y0, o - d)

/-- the year is within the cycle, the ordinal at least 1 and within its year (365 days, and the leap day where `delta` steps), and
    year, leap days before it and ordinal give the day back -/
theorem cycleToYo_spec (c : Nat) (hc : c < 146097) :
    (cycleToYo c).1 < 400 ∧ 1 ≤ (cycleToYo c).2
      ∧ (cycleToYo c).2 + delta (cycleToYo c).1 ≤ 365 + delta ((cycleToYo c).1 + 1)
      ∧ c + 1 = 365 * (cycleToYo c).1 + delta (cycleToYo c).1 + (cycleToYo c).2 := by
  have hy0 : c / 365 ≤ 400 := by omega
  have hc2 : c = 365 * (c / 365) + c % 365 := (Nat.div_add_mod c 365).symm
  simp only [cycleToYo]
  split
  next h =>
    -- the estimate `c / 365` is a year too high: the ordinal falls among the leap days already spent (a year 0 has spent none)
    obtain ⟨y, hy⟩ : ∃ y, c / 365 = y + 1 := ⟨c / 365 - 1, by
      have : c / 365 ≠ 0 := fun h0 => by rw [h0] at h; simp [delta] at h
      omega⟩
    have hb := delta_bound y (by omega)
    rw [hy] at h hc2
    simp only [hy, Nat.add_sub_cancel]
    -- `delta y ≤ 97` makes the subtraction exact; then the third conjunct is `h`, the fourth `hc2`
    exact ⟨by omega, by omega, by omega, by omega⟩
  next h =>
    have hs := delta_mono (c / 365)
    dsimp only
    refine ⟨?_, by omega, by omega, by omega⟩
    -- `c / 365 = 400` only for `c ≥ 146000`, and then the ordinal is at most 97 = `delta 400`, against `h`
    have h400 : delta 400 = 97 := by decide
    rcases Nat.lt_or_ge (c / 365) 400 with hlt | hge
    · exact hlt
    · rw [show c / 365 = 400 by omega, h400] at h
      omega
