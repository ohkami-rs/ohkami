import OhkamiModel.M.HttpObs
import OhkamiModel.GenConsts
/-! C05 / C06 model: the keep-alive loop of `Session::manage` (ohkami/src/session/mod.rs) over a scripted connection.
The connection is a list of chunks (what each `read` finds available; a chunk longer than the destination is
delivered over consecutive reads) and a flag saying whether the peer closes after them.  `Request::clear`, `Request::read`
(one `read` into the 1 KiB buffer, the head parsed from exactly the bytes read, the body completed by `read_exact`),
the handler, `send`; a refused request is answered and ends the session. -/
namespace Ohkami.Session
open Ohkami Ohkami.Http

structure Conn where
  chunks : List Bytes
  eof : Bool
deriving Repr

/-- `stream.read(&mut buf)`: the bytes one read returns (at most `cap`), and the connection afterwards; `none` = nothing left -/
def readSome (cap : Nat) : List Bytes → Option (Bytes × List Bytes)
  | [] => none
  | c :: rest =>
    if c.isEmpty then readSome cap rest
    else if c.length ≤ cap then some (c, rest) else some (c.take cap, c.drop cap :: rest)

/-- `read_exact(n)`: exactly `n` bytes across chunks -/
def readExact : Nat → List Bytes → Option (Bytes × List Bytes)
  | 0, cs => some ([], cs)
  | _ + 1, [] => none
  | n + 1, c :: rest =>
    if c.length ≥ n + 1 then some (c.take (n + 1), if c.length = n + 1 then rest else c.drop (n + 1) :: rest)
    else (readExact (n + 1 - c.length) rest).map fun (b, r) => (c ++ b, r)
termination_by n cs => cs.length
decreasing_by all_goals simp_wf <;> omega

def CRLFCRLF : Bytes := [13, 10, 13, 10]

/-- length of the head: up to and including the first blank line -/
def headLen : Bytes → Nat
  | [] => 0
  | b :: rest => if CRLFCRLF.isPrefixOf (b :: rest) then 4 else 1 + headLen rest

/-- how many bytes of the first read lie after the head: the reader's position when the header loop ends (the same steps as `Http.parse`) -/
def remLen (first : Bytes) : Nat :=
  let r0 := (P.readWhile (· != P.SP) first).2
  match r0 with
  | _ :: r1 =>
    let r2 := (P.readWhile (fun b => b != P.SP && b != Http.QM) r1).2
    let r5 : Bytes := match r2 with
      | c :: r3 => if c == P.SP then r3 else ((P.readWhile (· != P.SP) r3).2).drop 1
      | [] => []
    match P.consume Http.HTTP11 r5 with
    | some r6 => (match Http.headers (r6.length + 1) r6 [] [] with | .ok (_, _, rem) => rem.length | _ => 0)
    | none => 0
  | [] => 0

/-- how many bytes `read_payload` still takes from the stream after the first read: the announced body minus what came with the head -/
def needOf (first : Bytes) (p : Parsed) : Nat :=
  match p.payload with
  | some b => b.length - min b.length (remLen first)
  | none => 0

/-- the per-request state of the reused `Request` object that a handler could observe -/
structure Residue where
  parsed : Option Parsed        -- fields left by an earlier request (none = as after `init`)
  buf0 : UInt8                  -- first byte of the buffer (what `clear` tests)
deriving Repr

/-- `Request::clear`: only when the buffer does not start with NUL -/
def clear (r : Residue) : Residue := if r.buf0 != 0 then { r with parsed := none } else r

/-- connClose: ended after a `Connection: close` response; none: `read` returned `Ok(None)` (end of stream, unknown method, body cut short) -/
inductive End where | connClose | none | stalled | fuelOut
deriving Repr, DecidableEq

structure App where
  respond : Option Parsed → Parsed → Bytes       -- router.handle + send: may look at the residue (it must not matter)
  reject : Nat → Bytes                           -- the error response of a refused request

/-- `str::trim` on ASCII text: blanks, tabs and line ends off both ends -/
def isWs (b : UInt8) : Bool := b == 32 || b == 9 || b == 10 || b == 13 || b == 12 || b == 11
def trimAscii (v : Bytes) : Bytes := ((v.dropWhile isWs).reverse.dropWhile isWs).reverse
def lowerAscii (b : UInt8) : UInt8 := if 65 ≤ b && b ≤ 90 then b + 32 else b
def splitOnComma : Bytes → List Bytes
  | [] => [[]]
  | b :: t => match splitOnComma t with
    | [] => [[b]]          -- (not reached)
    | hd :: tl => if b == 44 then [] :: hd :: tl else (b :: hd) :: tl

/-- the request asks to end the connection: `Connection` is a list of case-insensitive options (RFC 9110 7.6.1) and one of them is `close` -/
def wantsClose (p : Parsed) : Bool :=
  match getStd p ((Gen.reqHeaderNames.map (·.1)).idxOf "Connection") with
  | some v => (splitOnComma v).any fun o => (trimAscii o).map lowerAscii == [99, 108, 111, 115, 101]      -- "close"
  | none => false

/-- the loop; returns the responses written, in order, and how the session ended -/
def run (app : App) : Nat → Residue → Conn → List Bytes × End
  | 0, _, _ => ([], .fuelOut)
  | fuel + 1, res, conn =>
    let res := clear res
    match readSome Gen.BUF_SIZE conn.chunks with
    | none => ([], if conn.eof then .none else .stalled)
    | some (first, rest) =>
      let res := { res with buf0 := first.headD 0 }
      let more := rest.flatten
      match parse first more with
      | .close =>
        -- either the method is unknown (the server closes), or the announced body did not arrive
        -- (the peer closed early; with an open connection it is a wait for input that has not arrived)
        if (methodOf (P.readWhile (· != P.SP) first).1).isNone then ([], .none)
        else ([], if conn.eof then .none else .stalled)
      | .panic _ => ([], .none)
      | .reject status =>
        -- a refused request is answered and the session ends: where the request ends is not known, so nothing after it may be read as a request
        ([app.reject status], .connClose)
      | .ok p =>
        -- how many bytes `read_payload` takes from the stream
        match readExact (needOf first p) rest with
        | none => ([], if conn.eof then .none else .stalled)
        | some (_, rest') =>
          let out := app.respond res.parsed p
          if wantsClose p then ([out], .connClose)
          else
            let (outs, e) := run app fuel { res with parsed := some p } ⟨rest', conn.eof⟩
            (out :: outs, e)

end Ohkami.Session
