/-! # C15 — the generated OpenAPI document

Model of `Router::gen_openapi_doc` (ohkami/src/router/final.rs), `Operation::assign_path_param_name` / `inbound` / `security`
(ohkami_openapi/src/paths.rs), the per-signature operation assembly of `IntoHandler` (fang/handler/into_handler.rs) and
`Fangs::openapi_map_operation` through every enclosing fang list (router/base.rs), over an application tree.

Not in this model: the lookup of a route's node through the compressed routing tree (`search_target` on the route literal) — the
document generator is modelled as reading the operation registered for that route and method; `C15.route_literal_found` proves on
the router model of C04 that the lookup finds it, and the correspondence check (every generated application, real document against
this model) covers it.  Schemas are opaque
(`SchemaId`), their validity is checked on the real document. -/

namespace Ohkami.OpenApi

abbrev Str := List Char

/-- a segment of a route literal: `users` or `:id` -/
inductive Seg | lit (s : Str) | param (name : Str)
deriving DecidableEq, Repr

inductive Method | GET | PUT | POST | PATCH | DELETE
deriving DecidableEq, Repr

inductive Fang | plain | jwt | basic | key (scheme : Str) | tag (t : Str)      -- `key`: a fang documenting an API-key scheme of that name
deriving DecidableEq, Repr

def Fang.isAuth : Fang → Bool
  | .jwt | .basic | .key _ => true
  | _ => false

def Fang.scheme : Fang → Option Str
  | .jwt => some "jwtAuth".toList
  | .basic => some "basicAuth".toList
  | .key n => some n
  | _ => none

inductive PKind | path | query
deriving DecidableEq, Repr

/-- a parameter of an operation; `ty` is the schema's type name -/
structure Param where
  kind     : PKind
  name     : Str
  ty       : Str
  required : Bool
deriving DecidableEq, Repr

/-- what a handler signature contributes: the operation `IntoHandler::into_handler` builds before any name is known -/
structure Sig where
  pathTys   : List Str                 -- one unnamed path parameter per FromParam item, in order
  query     : List Param               -- Query<T>: the properties of T's schema
  body      : Option Str               -- media type of the body extractor
  responses : List Nat                 -- statuses of the return type
deriving Repr

structure Operation where
  parameters : List Param
  body       : Option Str
  security   : List Str                -- the scheme of each authentication fang, innermost first (in the document: the keys of one requirement object)
  tags       : List Str
  responses  : List Nat
deriving Repr

/-- `Operation::with(Body::openapi_responses()).param(P1::openapi_param())...inbound(Item::openapi_inbound())` -/
def Sig.operation (s : Sig) : Operation :=
  { parameters := s.pathTys.map (fun t => ⟨.path, [], t, true⟩) ++ s.query, body := s.body, security := [], tags := [], responses := s.responses }

/-- `Fang::openapi_map_operation` of the five fang kinds -/
def Fang.mapOperation (f : Fang) (op : Operation) : Operation :=
  match f with
  | .plain => op
  | .jwt => { op with security := op.security ++ ["jwtAuth".toList] }
  | .basic => { op with security := op.security ++ ["basicAuth".toList] }
  | .key n => { op with security := op.security ++ [n] }
  | .tag t => { op with tags := op.tags ++ [t] }

/-- `Fangs::into_proc_with`: from the innermost fang outwards -/
def mapThrough (innermostFirst : List Fang) (op : Operation) : Operation := innermostFirst.foldl (fun o f => f.mapOperation o) op

/-- `Operation::assign_path_param_name`: the first path parameter without a name takes it; if there is none a string parameter is added -/
def assignIn : List Param → Str → Option (List Param)
  | [], _ => none
  | p :: ps, n =>
    if p.kind = .path ∧ p.name = [] then some ({ p with name := n } :: ps)
    else (assignIn ps n).map (p :: ·)

def assign (ps : List Param) (n : Str) : List Param :=
  match assignIn ps n with
  | some ps' => ps'
  | none => ps ++ [⟨.path, n, "string".toList, true⟩]

def assignAll (ps : List Param) (names : List Str) : List Param := names.foldl assign ps

/-- the `{param}` conversion of `gen_openapi_doc` -/
def Seg.template : Seg → Str
  | .lit s => s
  | .param n => ['{'] ++ n ++ ['}']

def template (route : List Seg) : Str :=
  match route with
  | [] => ['/']
  | _ => (route.map fun s => '/' :: s.template).flatten

/-- a segment text that cannot be confused: no `/` inside, a literal is not empty and does not start with `{` -/
def Seg.clean : Seg → Prop
  | .lit s => '/' ∉ s ∧ s.head? ≠ some '{' ∧ s ≠ []
  | .param n => '/' ∉ n ∧ '}' ∉ n

def paramNames (route : List Seg) : List Str := route.filterMap fun | .param n => some n | .lit _ => none

/-! ## applications -/

structure RouteItem where
  route   : List Seg
  methods : List (Method × Sig)
  «local» : List Fang                  -- as written: outermost first

inductive App
  | mk (fangs : List Fang) (routes : List RouteItem) (mounts : List (List Seg × App))

/-- a registered handler with everything that guards it: route from the root, method, signature, fangs innermost first -/
structure Flat where
  route  : List Seg
  method : Method
  sig    : Sig
  chain  : List Fang

/-- segments of two route patterns that share a node of the router: equal literals, or params (whatever their names) -/
def Seg.same : Seg → Seg → Bool
  | .lit a, .lit b => a == b
  | .param _, .param _ => true
  | _, _ => false

/-- the route lies under the mount prefix, segment by segment -/
def covers (pre route : List Seg) : Bool := pre.length ≤ route.length && (pre.zip route).all fun ab => ab.1.same ab.2

-- the fangs of the applications mounted below whose composed prefix covers the route, innermost first: a route lies in the scope of every application
--  whose mount prefix it is under, whoever registered it — the fangs sit on the mount node and guard the whole subtree (C04)
mutual
def coveringApp : App → List Seg → List Seg → List Fang
  | .mk fangs _ mounts, pre, route => if covers pre route then coveringMounts mounts pre route ++ fangs.reverse else []
def coveringMounts : List (List Seg × App) → List Seg → List Seg → List Fang
  | [], _, _ => []
  | (p, a) :: rest, pre, route => coveringMounts rest pre route ++ coveringApp a (pre ++ p) route
end

mutual
/-- `outer`: the fangs of the enclosing applications, innermost application's first (each list as written reversed = innermost first) -/
def flatten : App → List Seg → List Fang → List Flat
  | .mk fangs routes mounts, pre, outer =>
    let mine := fangs.reverse ++ outer
    (routes.flatMap fun r => r.methods.map fun ms => ⟨pre ++ r.route, ms.1, ms.2, r.local.reverse ++ coveringMounts mounts pre (pre ++ r.route) ++ mine⟩) ++ flattenMounts mounts pre mine
def flattenMounts : List (List Seg × App) → List Seg → List Fang → List Flat
  | [], _, _ => []
  | (p, a) :: rest, pre, outer => flatten a (pre ++ p) outer ++ flattenMounts rest pre outer
end

/-- the operation the document shows for a registered handler -/
def Flat.operation (f : Flat) : Operation :=
  let op := mapThrough f.chain f.sig.operation
  { op with parameters := assignAll op.parameters (paramNames f.route) }

structure Entry where
  path      : Str
  method    : Method
  operation : Operation

def document (a : App) : List Entry := (flatten a [] []).map fun f => ⟨template f.route, f.method, f.operation⟩

def pathParams (op : Operation) : List Param := op.parameters.filter (·.kind = .path)

end Ohkami.OpenApi
