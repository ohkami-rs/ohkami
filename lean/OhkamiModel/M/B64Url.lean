import OhkamiModel.P.B64
/-! base64url without padding (`URL_SAFE_NO_PAD`), by translation to and from the padded standard alphabet. -/
namespace Ohkami.B64Url
open Ohkami.B64

def MINUS : UInt8 := 45
def UNDER : UInt8 := 95
def PLUS : UInt8 := 43
def SLASH : UInt8 := 47

def toStd (c : UInt8) : UInt8 := if c = MINUS then PLUS else if c = UNDER then SLASH else c
def toUrl (c : UInt8) : UInt8 := if c = PLUS then MINUS else if c = SLASH then UNDER else c

/-- canonical decode: url alphabet only, no padding character, length not 1 mod 4, trailing bits zero -/
def decode (s : Bytes) : Option Bytes :=
  if s.any (fun c => c = PLUS || c = SLASH || c = pad) then none
  else if s.length % 4 = 1 then none
  else B64.decode (s.map toStd ++ List.replicate ((4 - s.length % 4) % 4) pad)

def encode (bs : Bytes) : Bytes := ((B64.encode bs).filter (· != pad)).map toUrl

example : encode [0xfb, 0xff] = [45, 95, 56] ∧ decode [45, 95, 56] = some [0xfb, 0xff] := by decide
example : decode [45, 95, 57] = none := by decide        -- non-canonical trailing bits
example : decode [45, 95, 56, 61] = none := by decide    -- padding is refused
example : decode [65] = none := by decide

end Ohkami.B64Url
