import OhkamiModel.M.Cors
/-! C14: `bite` written out field by field (`bite_eq`); the statements about single headers are projections of it. -/
namespace Ohkami.Cors

theorem bite_eq (p : Policy) (isOptions : Bool) (acrh : Option Bytes) (r : Inner) :
    bite p isOptions acrh r =
      { status := if isOptions = true ∧ r.status = 501 then 200 else r.status
        acao := some p.origin
        acac := if p.credentials then some (ascii "true") else none
        aceh := p.exposeHeaders
        acma := if isOptions then p.maxAge.map dec else none
        acah := if isOptions then (p.allowHeaders <|> acrh) else none
        acam := r.acam
        vary :=
          if isOptions = true ∧ (p.allowHeaders <|> acrh).isSome = true then
            appendVary (if p.origin == STAR then some (ascii "Origin") else r.vary) (ascii "Access-Control-Request-Headers")
          else if p.origin == STAR then some (ascii "Origin") else r.vary
        hasBody := if isOptions = true ∧ r.status = 501 then false else r.hasBody } := by
  unfold bite
  cases isOptions with
  | false => rfl
  | true =>
    cases hah : (p.allowHeaders <|> acrh) <;> by_cases h : r.status = 501
    all_goals
      simp only [h]
      rfl

theorem defaultOptions_some (ms : List Bytes) (m : Bytes) :
    defaultOptions ms (some m) =
      ⟨if (available ms).contains m then 501 else 400, some (intercalate SEP (available ms)), none, false⟩ := by
  simp only [defaultOptions]
  split <;> rfl

end Ohkami.Cors
