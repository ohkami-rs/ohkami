import OhkamiModel.M.SessionProofs
/-! C05, C06: the responses of a keep-alive connection are those of the requests it delivers — one induction over the loop (`run_delivers`),
    for requests that arrive one per chunk (`Exact`, C05) or cut into reads anywhere after the head (`SegExact`, C06). -/
namespace Ohkami.Session
open Ohkami Ohkami.Http

def BUF : Nat := Gen.BUF_SIZE

/-- the chunk holds one complete request and nothing else: parsed on its own it is accepted or refused, an accepted one ends
exactly where the chunk ends -/
def Exact (c : Bytes) : Prop :=
  c ≠ [] ∧ match parse (c.take BUF) (c.drop BUF) with
    | .ok p => needOf (c.take BUF) p = (c.drop BUF).length
    | .reject _ => True
    | _ => False

/-- what the request in `c` is answered on a fresh connection, and whether the session ends after it -/
def answer (app : App) (c : Bytes) : Option (Bytes × Bool) :=
  match parse (c.take BUF) (c.drop BUF) with
  | .ok p => some (app.respond none p, wantsClose p)
  | .reject s => some (app.reject s, true)
  | _ => none

/-- the responses of a connection, computed request by request from what each gets alone -/
def expected (app : App) : List Bytes → List Bytes
  | [] => []
  | c :: cs => match answer app c with
    | some (out, close) => out :: (if close then [] else expected app cs)
    | none => []

theorem readSome_cons (c : Bytes) (rest : List Bytes) (hc : c ≠ []) :
    readSome BUF (c :: rest) = some (c.take BUF, if c.length ≤ BUF then rest else c.drop BUF :: rest) := by
  have : c.isEmpty = false := by cases c <;> simp_all
  simp only [readSome, this, Bool.false_eq_true, if_false]
  by_cases h : c.length ≤ BUF
  · simp [h, List.take_of_length_le h]
  · simp [h]

theorem readSome_cons_le (c : Bytes) (rest : List Bytes) (hc : c ≠ []) (hl : c.length ≤ BUF) : readSome BUF (c :: rest) = some (c, rest) := by
  rw [readSome_cons c rest hc, if_pos hl, List.take_of_length_le hl]

theorem readExact_cons_le (c : Bytes) (rest : List Bytes) (n : Nat) (hn : 0 < n) (h : c.length ≤ n) :
    readExact n (c :: rest) = (readExact (n - c.length) rest).map fun (b, r) => (c ++ b, r) := by
  obtain ⟨k, rfl⟩ : ∃ k, n = k + 1 := ⟨n - 1, by omega⟩
  rw [readExact]
  split
  · have hc : c.length = k + 1 := by omega
    simp [hc, readExact, List.take_of_length_le (Nat.le_of_eq hc)]
  · rfl

theorem readExact_pieces : ∀ (ps : List Bytes) (rest : List Bytes), (∀ x ∈ ps, x ≠ []) → readExact ps.flatten.length (ps ++ rest) = some (ps.flatten, rest) := by
  intro ps
  induction ps with
  | nil => intro rest _; simp [readExact]
  | cons c ps ih =>
    intro rest hne
    have hc : 0 < c.length := List.length_pos_iff.mpr (hne c (List.mem_cons_self ..))
    rw [List.cons_append, List.flatten_cons, List.length_append, readExact_cons_le c _ _ (by omega) (by omega), Nat.add_sub_cancel_left,
      ih rest fun x hx => hne x (List.mem_cons_of_mem _ hx)]
    rfl

/-- the chunks `cs` at the front of a connection are read as exactly one request (first read `f`, rest of its body the pieces `ps`),
parsed as the bytes `c` are as one chunk on a fresh connection -/
def Delivers (cs : List Bytes) (c : Bytes) : Prop :=
  ∃ (f : Bytes) (ps : List Bytes), (∀ rest, readSome BUF (cs ++ rest) = some (f, ps ++ rest)) ∧ (∀ x ∈ ps, x ≠ []) ∧
    parse (c.take BUF) (c.drop BUF) = parse f ps.flatten ∧
    match parse f ps.flatten with
    | .ok p => needOf f p = ps.flatten.length
    | .reject _ => True
    | _ => False

/-- a connection on which the requests `xs` arrive one after the other — `x` as the chunks `g x`, being the bytes `b x` — is answered
    request by request as each `b x` is alone -/
theorem run_delivers (app : App) {α : Type} (g : α → List Bytes) (b : α → Bytes) : ∀ (xs : List α), (∀ x ∈ xs, Delivers (g x) (b x)) →
    ∀ (fuel : Nat), xs.length < fuel → ∀ (res : Residue) (eof : Bool), (run (forget app) fuel res ⟨xs.flatMap g, eof⟩).1 = expected app (xs.map b) := by
  intro xs
  induction xs with
  | nil =>
    intro _ fuel hf res eof
    cases fuel with
    | zero => simp at hf
    | succ n => simp [run, readSome, expected]
  | cons x xs ih =>
    intro h fuel hf res eof
    cases fuel with
    | zero => simp at hf
    | succ n =>
      obtain ⟨f, ps, hrs, hps, heq, hshape⟩ := h x (List.mem_cons_self ..)
      unfold BUF at hrs
      have ih' := fun res' => ih (fun x' hx' => h x' (List.mem_cons_of_mem _ hx')) n (by simp at hf; omega) res' eof
      simp only [List.flatMap_cons, List.map_cons, run, hrs, expected, answer, heq, List.flatten_append]
      -- the loop parses `f` against the whole rest of the stream; what follows the request changes neither an accepted result nor a
      -- refusal (`parse_more`), and an accepted request takes exactly its pieces `ps` from the stream (`readExact_pieces`)
      cases hp : parse f ps.flatten with
      | close => simp [hp] at hshape
      | panic s => simp [hp] at hshape
      | reject s => simp [(parse_more f ps.flatten _).2 s hp, forget]
      | ok p =>
        simp only [hp] at hshape
        simp only [(parse_more f ps.flatten _).1 p hp, hshape, readExact_pieces ps _ hps]
        cases hw : wantsClose p with
        | true => simp [forget]
        | false => simpa [forget] using ih' _

theorem Exact.delivers {c : Bytes} (h : Exact c) : Delivers [c] c := by
  obtain ⟨hne, hshape⟩ := h
  have hrs := fun rest => readSome_cons c rest hne
  by_cases hl : c.length ≤ BUF
  · have hd : c.drop BUF = [] := List.drop_of_length_le hl
    simp only [if_pos hl] at hrs
    rw [hd] at hshape
    exact ⟨c.take BUF, [], hrs, by simp, by rw [hd]; rfl, hshape⟩
  · have hd : c.drop BUF ≠ [] := fun hd => hl (List.drop_eq_nil_iff.mp hd)
    simp only [if_neg hl] at hrs
    refine ⟨c.take BUF, [c.drop BUF], hrs, by simpa using hd, ?_⟩
    simp only [List.flatten_cons, List.flatten_nil, List.append_nil]
    exact ⟨trivial, hshape⟩

/-- **One request per read** (C05), for any state of the reused request object -/
theorem one_per_chunk (app : App) : ∀ (cs : List Bytes), (∀ c ∈ cs, Exact c) → ∀ (fuel : Nat), cs.length < fuel → ∀ (res : Residue) (eof : Bool),
    (run (forget app) fuel res ⟨cs, eof⟩).1 = expected app cs := by
  intro cs hex fuel hf res eof
  simpa using run_delivers app (fun c => [c]) id cs (fun c hc => (hex c hc).delivers) fuel hf res eof

/-- a request as it arrives: the first read `f` (holding the whole head, at most the buffer) and the rest of its body in any pieces -/
abbrev Seg := Bytes × List Bytes

def chunksOf (segs : List Seg) : List Bytes := segs.flatMap fun s => s.1 :: s.2

def Seg.bytes (s : Seg) : Bytes := s.1 ++ s.2.flatten

/-- the segments hold one complete request and nothing else; its head is within the first read -/
def SegExact (s : Seg) : Prop :=
  s.1 ≠ [] ∧ s.1.length ≤ BUF ∧ (∀ x ∈ s.2, x ≠ []) ∧ match parse s.1 s.2.flatten with
    | .ok p => needOf s.1 p = s.2.flatten.length
    | .reject _ => s.2 = []
    | _ => False

theorem SegExact.delivers {s : Seg} (h : SegExact s) : Delivers (s.1 :: s.2) s.bytes := by
  obtain ⟨f, ps⟩ := s
  obtain ⟨hne, hlen, hps, hshape⟩ := h
  simp only at hne hlen hps hshape ⊢
  refine ⟨f, ps, fun rest => readSome_cons_le f (ps ++ rest) hne hlen, hps, ?_⟩
  -- as one chunk the request is cut at `BUF`, not where the first read `f` ended: for an accepted request the place of the cut
  -- behind the head does not matter (`parse_split`, C06); a refused one has no pieces, so nothing moves
  unfold Seg.bytes
  rw [List.take_append, List.drop_append, List.take_of_length_le hlen, List.drop_of_length_le hlen, List.nil_append]
  cases hp : parse f ps.flatten with
  | close => simp [hp] at hshape
  | panic st => simp [hp] at hshape
  | reject st =>
    simp only [hp] at hshape
    subst hshape
    simpa using hp
  | ok p => exact ⟨parse_split _ _ _ _ (by rw [List.take_append_drop]; exact hp), by simpa [hp] using hshape⟩

/-- **Responses are a function of the byte stream** (C06): no segmentation appears on the right-hand side -/
theorem segmentation_independent (app : App) : ∀ (segs : List Seg), (∀ s ∈ segs, SegExact s) → ∀ (fuel : Nat), segs.length < fuel → ∀ (res : Residue) (eof : Bool),
    (run (forget app) fuel res ⟨chunksOf segs, eof⟩).1 = expected app (segs.map Seg.bytes) :=
  fun segs hex => run_delivers app (fun s : Seg => s.1 :: s.2) Seg.bytes segs fun s hs => (hex s hs).delivers

end Ohkami.Session
