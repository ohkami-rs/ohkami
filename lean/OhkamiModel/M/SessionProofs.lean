import OhkamiModel.M.Session
import OhkamiModel.HttpStages
/-! C05: nothing of an earlier request is observable while a later one is handled — the residue argument of `respond`
is `none` at every call of the loop, for every connection script. -/
namespace Ohkami.Session
open Ohkami Ohkami.Http Ohkami.P

theorem method_head_nonzero : ∀ m ∈ Gen.methodBytes, m.headD 0 ≠ 0 := by decide

theorem methodOf_some_mem (m : Bytes) (s : String) (h : methodOf m = some s) : m ∈ Gen.methodBytes := by
  unfold methodOf at h
  cases hi : Gen.methodBytes.idxOf? m with
  | none => simp [hi] at h
  | some i =>
    obtain ⟨hlt, hget, _⟩ := List.idxOf?_eq_some_iff.mp hi
    rw [← hget]; exact List.getElem_mem _

theorem parse_ok_head (first more : Bytes) (p : Parsed) (h : parse first more = .ok p) : first.headD 0 ≠ 0 := by
  obtain ⟨_, _, _, _, ⟨m, path, rfl, hm, -⟩, -⟩ := parse_ok_stages h
  have hne := method_head_nonzero m (methodOf_some_mem m _ hm)
  cases m with
  | nil => simp at hne
  | cons a t => simpa using hne

def forget (app : App) : App := ⟨fun _ p => app.respond none p, app.reject⟩

/-- **No residue** (C05).  The hypothesis says that `clear` will fire: a fresh request object, or a buffer that does not start with NUL. -/
theorem residue_irrelevant (app : App) : ∀ (fuel : Nat) (res : Residue) (conn : Conn),
    (res.parsed = none ∨ res.buf0 ≠ 0) → run app fuel res conn = run (forget app) fuel res conn := by
  intro fuel
  induction fuel with
  | zero => intros; rfl
  | succ n ih =>
    intro res conn hres
    have hclear : (clear res).parsed = none := by
      unfold clear
      rcases hres with h | h
      · split <;> simp [h]
      · simp [h]
    -- the two sides differ only in what `respond` is given, for an accepted request whose body arrived; `hclear` makes them equal there,
    -- and only the arm that goes on to the next request needs the induction hypothesis
    simp only [run]
    split
    · rfl
    · rename_i first rest _
      split
      · rfl
      · rfl
      · rfl
      · rename_i p hp
        have hnz := parse_ok_head first rest.flatten p hp
        simp only [hclear]
        split
        · rfl
        · rename_i rest' _
          split
          · rfl
          · rw [ih { parsed := some p, buf0 := first.headD 0 } ⟨rest', conn.eof⟩ (Or.inr hnz)]
            rfl

end Ohkami.Session
