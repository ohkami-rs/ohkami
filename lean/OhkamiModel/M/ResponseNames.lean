import OhkamiModel.M.ResponseProofs
/-! C03, "every live header exactly once", for the names given to the by-name API `.x(name, ..)`: field names compare in any
    letter case.  Whatever history of public operations built the response, the lines written for names outside the standard table
    carry pairwise different names, ignoring case, and none of them is a name of the table (those are written from the table, once). -/
namespace Ohkami.Response
open Ohkami

theorem ciEq_iff (a b : Bytes) : ciEq a b = true ↔ a.map lowerB = b.map lowerB := by simp [ciEq]
theorem ciEq_refl (a : Bytes) : ciEq a a = true := by simp [ciEq]
theorem ciEq_symm {a b : Bytes} (h : ciEq a b = true) : ciEq b a = true := by rw [ciEq_iff] at *; exact h.symm
theorem ciEq_trans {a b c : Bytes} (h1 : ciEq a b = true) (h2 : ciEq b c = true) : ciEq a c = true := by
  rw [ciEq_iff] at *; exact h1.trans h2
theorem ciEq_congr {k n : Bytes} (h : ciEq k n = true) (a : Bytes) : ciEq a k = ciEq a n := by
  cases h1 : ciEq a k <;> cases h2 : ciEq a n <;> try rfl
  · exact absurd (ciEq_trans h2 (ciEq_symm h)) (by simp [h1])
  · exact absurd (ciEq_trans h1 h) (by simp [h2])

theorem stdIdx_congr (c : Cfg) {k n : Bytes} (h : ciEq k n = true) : stdIdx c k = stdIdx c n := by
  unfold stdIdx
  congr 1
  funext x
  exact ciEq_congr h x

/-- the number of lines written under the name `n`, ignoring case -/
def linesFor (l : List (Bytes × Bytes)) (n : Bytes) : Nat := (l.map fun nv => if ciEq nv.1 n then 1 else 0).sum
/-- the number of lines, among those for names outside the table, whose name is a name of the table after all -/
def strays (c : Cfg) (l : List (Bytes × Bytes)) : Nat := (l.map fun nv => if (stdIdx c nv.1).isSome then 1 else 0).sum

def XInv (c : Cfg) (h : Headers) : Prop := (∀ n, linesFor h.custom n ≤ 1) ∧ strays c h.custom = 0

/-- the names of a list of lines are apart: no two equal ignoring case, none a name of the table (`XInv` says this of `h.custom`) -/
def NamesApart (c : Cfg) (l : List (Bytes × Bytes)) : Prop := (∀ n, linesFor l n ≤ 1) ∧ strays c l = 0

/-! `linesFor` and `strays` are sums over the names of the lines: writing over the value of a line changes neither, taking a line away
    makes neither greater -/
theorem sum_names_set (g : Bytes → Nat) (l : List (Bytes × Bytes)) (i : Nat) (hi : i < l.length) (w : Bytes) :
    ((l.set i (l[i].1, w)).map fun nv => g nv.1).sum = (l.map fun nv => g nv.1).sum :=
  Nat.add_right_cancel (sum_map_set (fun nv : Bytes × Bytes => g nv.1) l i (l[i].1, w) hi)

theorem NamesApart.overwrite {c : Cfg} {l : List (Bytes × Bytes)} (h : NamesApart c l) {n : Bytes} {i : Nat}
    (hf : l.findIdx? (fun x => decide (x.1 = n)) = some i) (w : Bytes) : NamesApart c (l.set i (n, w)) := by
  obtain ⟨hi, rfl⟩ := findIdx?_spec hf
  exact ⟨fun m => Nat.le_trans (Nat.le_of_eq (sum_names_set (fun a => if ciEq a m then 1 else 0) l i hi w)) (h.1 m),
    (sum_names_set (fun a => if (stdIdx c a).isSome then 1 else 0) l i hi w).trans h.2⟩

theorem NamesApart.swapRemove {c : Cfg} {l : List (Bytes × Bytes)} (h : NamesApart c l) {i : Nat} (hi : i < l.length) :
    NamesApart c (swapRemove l i) :=
  ⟨fun m => Nat.le_trans (sum_map_swapRemove_le _ l i hi) (h.1 m),
    Nat.le_zero.mp (Nat.le_trans (sum_map_swapRemove_le _ l i hi) (Nat.le_of_eq h.2))⟩

theorem NamesApart.push {c : Cfg} {l : List (Bytes × Bytes)} (h : NamesApart c l) {n : Bytes} (hs : stdIdx c n = none)
    (hno : ∀ a ∈ l, ciEq a.1 n = false) (v : Bytes) : NamesApart c (l ++ [(n, v)]) := by
  constructor
  · intro m
    simp only [linesFor, List.map_append, List.sum_append_nat, List.map_cons, List.map_nil, List.sum_cons, List.sum_nil]
    cases hnm : ciEq n m with
    | false => exact h.1 m
    | true =>
      -- a line whose name equals `m` ignoring case would equal `n` ignoring case
      have : (l.map fun nv : Bytes × Bytes => if ciEq nv.1 m then 1 else 0).sum = 0 := by
        rw [List.sum_eq_zero_iff_forall_eq_nat]
        intro x hx
        obtain ⟨a, ha, rfl⟩ := List.mem_map.mp hx
        rw [← ciEq_congr hnm a.1, hno a ha]; rfl
      rw [this]; decide
  · simp only [strays, List.map_append, List.sum_append_nat, List.map_cons, List.map_nil, List.sum_cons, List.sum_nil, hs]
    exact h.2

/-- a name that `insertX` / `appendX` may be given without two lines coming of it: outside the table, and either held in this very
spelling or in none (what `heldName` returns for a name outside the table) -/
def _root_.Ohkami.HOp.fresh (c : Cfg) (h : Headers) : HOp → Prop
  | .insertX n _ | .appendX n _ => stdIdx c n = none ∧ ((∃ e ∈ h.custom, e.1 = n) ∨ ∀ a ∈ h.custom, ciEq a.1 n = false)
  | _ => True

theorem XInv_apply (c : Cfg) (h : Headers) (op : HOp) (hop : HOp.fresh c h op) (hx : XInv c h) : XInv c (h.apply c.nameLen op) := by
  have hx : NamesApart c h.custom := hx
  revert hop
  -- the cases of `Headers.apply` that change a name among the lines: a line added, a value written over, a line taken away
  fun_cases Headers.apply c.nameLen h op
  case case7 n v hf | case11 n v hf =>
    -- `findIdx?` finds no line spelt `n`: then (`fresh`) none carries the name in any spelling
    intro hop
    refine hx.push hop.1 (hop.2.resolve_left fun ⟨e, he, hn⟩ => ?_) v
    simpa [hn] using List.findIdx?_eq_none_iff.mp hf e he
  case case8 n v i hf | case12 n v i hf => exact fun _ => hx.overwrite hf _
  case case10 n i hf => exact fun _ => hx.swapRemove (findIdx?_spec hf).1
  all_goals exact fun _ => hx

theorem heldName_fresh (c : Cfg) (h : Headers) (n : Bytes) (hs : stdIdx c n = none) :
    stdIdx c (heldName h n) = none ∧ ((∃ e ∈ h.custom, e.1 = heldName h n) ∨ ∀ a ∈ h.custom, ciEq a.1 (heldName h n) = false) := by
  unfold heldName
  cases hf : h.custom.find? (fun x => ciEq x.1 n) with
  | some e =>
    have he : ciEq e.1 n = true := by simpa using List.find?_some hf
    exact ⟨by rw [Option.map_some, Option.getD_some, stdIdx_congr c he]; exact hs, .inl ⟨e, List.mem_of_find?_eq_some hf, rfl⟩⟩
  | none => exact ⟨hs, .inr fun a ha => by simpa using List.find?_eq_none.mp hf a ha⟩

theorem resolveX_fresh (c : Cfg) (h : Headers) (op : XOp) : HOp.fresh c h (resolveX c h op) := by
  -- a name of the table goes to the table; any other is spelt as `heldName` has it (`removeX` asks nothing of its name)
  fun_cases resolveX c h op
  case case2 hs | case6 hs => exact heldName_fresh c h _ hs
  all_goals trivial

/-- inserting and appending under a name outside the table go through `.x` only (which resolves the spelling first) -/
def ROp.viaApi : ROp → Prop
  | .h (.insertX _ _) | .h (.appendX _ _) => False
  | _ => True

/-- **No header name gets two lines, in whatever letter case it was given.**  For every history of public operations. -/
theorem names_apart (c : Cfg) (status : Nat) (date : Bytes) (ops : List ROp) (hv : ∀ op ∈ ops, op.viaApi) :
    XInv c (build c status date ops).headers := by
  refine build_headers_ind c (XInv c) ROp.viaApi ?_ (fun h k _ hx => ⟨fun v => XInv_apply c h _ trivial hx, XInv_apply c h _ trivial hx⟩)
    (fun h op ha hx => XInv_apply c h op ?_ hx) (fun h op _ hx => XInv_apply c h _ (resolveX_fresh c h op) hx) status date ops hv
  · simp [XInv, Headers.empty, linesFor, strays]
  · cases op <;> first | trivial | exact ha.elim

end Ohkami.Response
