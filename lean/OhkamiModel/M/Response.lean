import OhkamiModel.P.Live
/-! C03 model of `Response` (ohkami/src/response/mod.rs): construction, the body setters, `drop_content`,
`complete`, and `send` for `Content::None | Payload` as the byte string written and the capacity reserved.
Header names, the indices of the three headers the body setters touch, and the status lines are parameters
(`Cfg`); the driver instantiates them from the tables regenerated from the source (GenResHeaders, GenStatus). -/
namespace Ohkami.Response
open Ohkami

structure Cfg where
  names : List Bytes          -- standard header names, by enum index
  kCL : Nat                   -- Content-Length
  kCT : Nat                   -- Content-Type
  kDate : Nat
  line : Nat → Bytes          -- status line of a status code

def Cfg.n (c : Cfg) : Nat := c.names.length
def Cfg.nameLen (c : Cfg) (k : Nat) : Nat := (c.names.getD k []).length

structure Cfg.OK (c : Cfg) : Prop where
  cl : c.kCL < c.n
  ct : c.kCT < c.n
  date : c.kDate < c.n
  cl_ne_ct : c.kCL ≠ c.kCT
  cl_ne_date : c.kCL ≠ c.kDate

structure Resp where
  status : Nat
  headers : Headers
  body : Option Bytes         -- Content::None | Content::Payload
deriving Repr

/-! ### the by-name API `.x(name, ..)`: field names compare in any letter case
A name of the standard table, however it is spelt, goes to the table (`Header::from_bytes`, as `Headers::from_iter` always did); any
other name is looked up among the names already held, ignoring case (`held_name`), and the operation is carried out under that spelling. -/
def lowerB (b : UInt8) : UInt8 := if 65 ≤ b && b ≤ 90 then b + 32 else b
def ciEq (a b : Bytes) : Bool := a.map lowerB == b.map lowerB

inductive XOp where
  | set (name v : Bytes)
  | remove (name : Bytes)
  | append (name v : Bytes)
deriving Repr

def XOp.name : XOp → Bytes
  | .set n _ | .remove n | .append n _ => n

def stdIdx (c : Cfg) (n : Bytes) : Option Nat := c.names.findIdx? (ciEq · n)

def heldName (h : Headers) (n : Bytes) : Bytes := ((h.custom.find? (ciEq ·.1 n)).map (·.1)).getD n

def resolveX (c : Cfg) (h : Headers) : XOp → HOp
  | .set n v => match stdIdx c n with | some k => .insert k v | none => .insertX (heldName h n) v
  | .remove n => match stdIdx c n with | some k => .remove k | none => .removeX (heldName h n)
  | .append n v => match stdIdx c n with | some k => .append k v | none => .appendX (heldName h n) v

/-- the public operations on a `Response` -/
inductive ROp where
  | h (op : HOp)                              -- headers.set().X(..) / .SetCookie(..) (line already built)
  | x (op : XOp)                              -- headers.set().x(name, ..)
  | payload (ctype : Bytes) (body : Bytes)    -- set_text / set_html / set_json / set_payload
  | drop                                      -- drop_content
deriving Repr

def hop (c : Cfg) (r : Resp) (op : HOp) : Resp := { r with headers := r.headers.apply c.nameLen op }

/-- canonical decimal, as `ohkami_lib::num::itoa` prints it (what C20 proves of `itoa`, over digit values: `Num.digitsBE`) -/
def decDigits : Nat → Nat → List UInt8
  | 0, _ => []
  | fuel + 1, n => if n < 10 then [(48 + n).toUInt8] else decDigits fuel (n / 10) ++ [(48 + n % 10).toUInt8]
def dec (n : Nat) : Bytes := decDigits (n + 1) n

def zero : Bytes := [48]

/-- `Response::new(status)`: `Headers::new()` sets `Date` and `Content-Length: 0` -/
def new (c : Cfg) (status : Nat) (date : Bytes) : Resp :=
  hop c (hop c ⟨status, Headers.empty c.n, none⟩ (.insert c.kDate date)) (.insert c.kCL zero)

def setPayload (c : Cfg) (r : Resp) (ctype body : Bytes) : Resp :=
  let r := hop c r (.insert c.kCT ctype)
  let r := hop c r (.insert c.kCL (dec body.length))
  { r with body := some body }

def dropContent (c : Cfg) (r : Resp) : Resp :=
  let r := { r with body := none }
  let r := hop c r (.remove c.kCT)
  hop c r (.remove c.kCL)

def applyOp (c : Cfg) (r : Resp) : ROp → Resp
  | .h op => hop c r op
  | .x op => hop c r (resolveX c r.headers op)
  | .payload ct b => setPayload c r ct b
  | .drop => dropContent c r

def mayHaveNoLength (status : Nat) : Bool := (100 ≤ status && status ≤ 199) || status = 304

/-- `Response::complete` (with the repair: an empty body-capable response declares `Content-Length: 0`) -/
def complete (c : Cfg) (r : Resp) : Resp :=
  if r.status = 204 then
    let r := if (r.headers.std.get c.kCL).isSome then hop c r (.remove c.kCL) else r
    { r with body := none }
  else match r.body with
    | none =>
      if (r.headers.std.get c.kCL).isNone && !mayHaveNoLength r.status then hop c r (.insert c.kCL zero) else r
    | some _ => r

def build (c : Cfg) (status : Nat) (date : Bytes) (ops : List ROp) : Resp :=
  complete c (ops.foldl (applyOp c) (new c status date))

def crlf : Bytes := [13, 10]
def sep : Bytes := [58, 32]
def setCookiePrefix : Bytes := [83, 101, 116, 45, 67, 111, 111, 107, 105, 101, 58, 32]  -- "Set-Cookie: "

def renderStd (c : Cfg) (kv : Nat × Bytes) : Bytes := c.names.getD kv.1 [] ++ sep ++ kv.2 ++ crlf
def renderX (nv : Bytes × Bytes) : Bytes := nv.1 ++ sep ++ nv.2 ++ crlf
def renderCookie (l : Bytes) : Bytes := setCookiePrefix ++ l ++ crlf

/-- `Headers::write_unchecked_to` -/
def renderHeaders (c : Cfg) (h : Headers) : Bytes :=
  h.std.live.flatMap (renderStd c) ++ h.custom.flatMap renderX ++ h.cookies.flatMap renderCookie ++ crlf

/-- the bytes `send` pushes into its buffer -/
def render (c : Cfg) (r : Resp) : Bytes := c.line r.status ++ renderHeaders c r.headers ++ r.body.getD []

/-- the capacity `send` reserves (`Vec::with_capacity`) -/
def declared (c : Cfg) (r : Resp) : Nat := (c.line r.status).length + r.headers.size + (r.body.getD []).length

/-- each `push_unchecked!` in `send` is within the reserved capacity -/
def noOverrun (c : Cfg) (r : Resp) : Prop := (render c r).length ≤ declared c r

end Ohkami.Response
