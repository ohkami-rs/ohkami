/-! # C16 — `derive(Schema)` against serde's wire shape

Two transcriptions, kept apart on purpose:

* `Macro.*` — `ohkami_macros/src/openapi.rs` (`schema_of_fields`, `schema_of_variants`) and
  `ohkami_macros/src/openapi/attributes/serde/case.rs` (`Case::apply_to_field / apply_to_variant`), as the code is written;
* `Serde.*` — `serde_derive/src/internals/case.rs` (`RenameRule`) and serde's documented data model: which keys a derived
  `Serialize` writes for a struct / each enum representation, and when a derived `Deserialize` accepts a missing key.

Identifiers are ASCII here (`char::is_uppercase` is Unicode-aware in Rust; `Char.isUpper` is not) — the driver answers
`unmodelled` for anything else.  `none` stands for a panic of the Rust code (`pascal[..1]` on the empty string).
Types of fields are opaque texts: the schema of a field is `<T as Schema>::schema()` whatever `T` is. -/

namespace Ohkami.Derive

abbrev Str := List Char

inductive Rule | lower | upper | pascal | camel | snake | screamingSnake | kebab | screamingKebab
deriving DecidableEq, Repr

def Rule.ofString? : String → Option Rule
  | "lowercase" => some .lower | "UPPERCASE" => some .upper | "PascalCase" => some .pascal | "camelCase" => some .camel
  | "snake_case" => some .snake | "SCREAMING_SNAKE_CASE" => some .screamingSnake | "kebab-case" => some .kebab
  | "SCREAMING-KEBAB-CASE" => some .screamingKebab | _ => none

/-- `str::to_ascii_uppercase` -/
def upper (s : Str) : Str := s.map Char.toUpper
/-- `str::to_ascii_lowercase` -/
def lower (s : Str) : Str := s.map Char.toLower
/-- `str::replace('_', "-")` -/
def dash (s : Str) : Str := s.map fun c => if c = '_' then '-' else c
/-- `s[..1].to_ascii_lowercase() + &s[1..]`; slicing the empty string at 1 panics -/
def lowerFirst : Str → Option Str
  | [] => none
  | c :: cs => some (c.toLower :: cs)

/-- `syn::ext::IdentExt::unraw` -/
def unraw : Str → Str
  | 'r' :: '#' :: rest => rest
  | s => s

/-! ## the macro's case rules (case.rs of ohkami_macros) -/
namespace Macro

/-- the `for ch in field.chars()` loop of `Self::Pascal` in `apply_to_field` (state: `capitalize`) -/
def pascalLoop : Str → Bool → Str
  | [], _ => []
  | c :: cs, cap => if c = '_' then pascalLoop cs true else if cap then c.toUpper :: pascalLoop cs false else c :: pascalLoop cs false

/-- the `for (i, ch) in variant.char_indices()` loop of `Self::Snake` in `apply_to_variant` (state: `i > 0`) -/
def snakeLoop : Str → Bool → Str
  | [], _ => []
  | c :: cs, later => (if later && c.isUpper then ['_'] else []) ++ c.toLower :: snakeLoop cs true

def applyField : Rule → Str → Option Str
  | .lower, s | .snake, s => some s
  | .upper, s => some (upper s)
  | .pascal, s => some (pascalLoop s true)
  | .camel, s => lowerFirst (pascalLoop s true)
  | .screamingSnake, s => some (upper s)
  | .kebab, s => some (dash s)
  | .screamingKebab, s => some (dash (upper s))

def applyVariant : Rule → Str → Option Str
  | .pascal, s => some s
  | .lower, s => some (lower s)
  | .upper, s => some (upper s)
  | .camel, s => lowerFirst s
  | .snake, s => some (snakeLoop s false)
  | .screamingSnake, s => some (upper (snakeLoop s false))
  | .kebab, s => some (dash (snakeLoop s false))
  | .screamingKebab, s => some (dash (upper (snakeLoop s false)))

end Macro

/-! ## serde's case rules (internals/case.rs of serde_derive) -/
namespace Serde

def pascal : Str → Bool → Str
  | [], _ => []
  | ch :: rest, capitalize =>
    if ch = '_' then pascal rest true
    else if capitalize then ch.toUpper :: pascal rest false
    else ch :: pascal rest false

def snake : Str → Nat → Str
  | [], _ => []
  | ch :: rest, i => (if i > 0 && ch.isUpper then ['_'] else []) ++ ch.toLower :: snake rest (i + 1)

def applyVariant : Rule → Str → Option Str
  | .pascal, v => some v
  | .lower, v => some (lower v)
  | .upper, v => some (upper v)
  | .camel, v => lowerFirst v
  | .snake, v => some (snake v 0)
  | .screamingSnake, v => some (upper (snake v 0))
  | .kebab, v => some (dash (snake v 0))
  | .screamingKebab, v => some (dash (upper (snake v 0)))

def applyField : Rule → Str → Option Str
  | .lower, f | .snake, f => some f
  | .upper, f => some (upper f)
  | .pascal, f => some (pascal f true)
  | .camel, f => lowerFirst (pascal f true)
  | .screamingSnake, f => some (upper f)
  | .kebab, f => some (dash f)
  | .screamingKebab, f => some (dash (upper f))

end Serde

/-! ## type definitions (what both sides read) -/

structure Field where
  ident   : Str             -- as written, `r#` included
  rename  : Option Str := none
  skip    : Bool := false
  skipSer : Bool := false
  skipDe  : Bool := false
  dflt    : Bool := false
  skipIf  : Bool := false
  flatten : Bool := false
  withFn  : Bool := false   -- #[openapi(schema_with = "...")]
  option  : Bool := false   -- the type is `Option<inner>`
  ty      : String := ""    -- the type as written
  inner   : String := ""    -- `inner` of `Option<inner>`, else the type itself
deriving Repr

inductive Fields | named (fs : List Field) | unnamed (fs : List Field) | unit
deriving Repr

structure Variant where
  ident     : Str
  rename    : Option Str := none
  renameAll : Option Rule := none
  skip      : Bool := false
  skipSer   : Bool := false
  skipDe    : Bool := false
  fields    : Fields := .unit
deriving Repr

structure StructDef where
  renameAll : Option Rule := none
  cdefault  : Bool := false
  fields    : Fields
deriving Repr

structure EnumDef where
  renameAll       : Option Rule := none
  renameAllFields : Option Rule := none
  tag             : Option Str := none
  content         : Option Str := none
  untagged        : Bool := false
  variants        : List Variant
deriving Repr

/-! ## the schema shape (what the generated builder expression builds) -/

inductive Sch
  | obj (props : List (Str × Bool × Sch)) (flattened : List (Bool × Sch))   -- name, required, schema — in order; flattened members: (all keys optional, schema)
  | enm (names : List Str)                                          -- string().enumerates([...])
  | oneOf (ss : List Sch)
  | anyOf (ss : List Sch)
  | arr (item : Sch)
  | ty (t : String)                                                 -- <T as Schema>::schema()
  | withFn                                                          -- a user function
  | extend (base : Sch) (name : Str) (s : Sch)                      -- Schema::<object>::from(RawSchema::from(base)).property(name, s)
deriving Repr

def Fields.isUnit : Fields → Bool
  | .unit => true
  | _ => false

/-! ## the macro -/
namespace Macro

/-- name of a field / variant: unraw, then `rename_all` (which may panic), then `rename` -/
def name (apply : Rule → Str → Option Str) (ra : Option Rule) (ident : Str) (rename : Option Str) : Option Str :=
  match ra with
  | none => some (rename.getD (unraw ident))
  | some r => (apply r (unraw ident)).map fun n => rename.getD n

def isOptional (cdefault : Bool) (f : Field) : Bool := f.option || cdefault || f.dflt || f.skipDe || f.skipIf

def fieldSch (f : Field) : Sch := if f.withFn then .withFn else .ty f.inner

/-- the loop over named fields of `schema_of_fields`: accumulates `.property / .optional` calls and flatten loops -/
def namedLoop (ra : Option Rule) (cdefault : Bool) : List Field → List (Str × Bool × Sch) → List (Bool × Sch) → Option Sch
  | [], ps, fl => some (.obj ps.reverse fl.reverse)
  | f :: fs, ps, fl =>
    if f.skip || f.skipSer then namedLoop ra cdefault fs ps fl
    else match name applyField ra f.ident f.rename with
      | none => none
      | some n =>
        if f.withFn then namedLoop ra cdefault fs ((n, !isOptional cdefault f, .withFn) :: ps) fl
        else if f.flatten then namedLoop ra cdefault fs ps ((f.option, .ty f.inner) :: fl)
        else namedLoop ra cdefault fs ((n, !isOptional cdefault f, .ty f.inner) :: ps) fl

def schemaOfFields (ra : Option Rule) (cdefault : Bool) : Fields → Option Sch
  | .named fs => namedLoop ra cdefault fs [] []
  | .unnamed [f] => some (if f.withFn then .withFn else .ty f.ty)
  | .unnamed [] => some (.obj [] [])
  | .unit => some (.obj [] [])
  | .unnamed fs => some (.arr (.anyOf ((fs.filter fun f => !(f.skip || f.skipSer)).map fieldSch)))

def tagSch (tag : Str) : Sch := .enm [tag]

/-- `.property(t, ..)` on the schema of a variant's fields (internally tagged) -/
def addTag (s : Sch) (t tag : Str) : Sch :=
  match s with
  | .obj ps fl => .obj (ps ++ [(t, true, tagSch tag)]) fl
  | other => .extend other t (tagSch tag)

/-- `rename_all_of_fields`: the variant's `rename_all` if it has one, else the enum's `rename_all_fields` -/
def ruleOfFields (e : EnumDef) (v : Variant) : Option Rule :=
  match v.renameAll with
  | some r => some r
  | none => e.renameAllFields

def variantSch (e : EnumDef) (v : Variant) : Option Sch :=
  match name applyVariant e.renameAll v.ident v.rename with
  | none => none
  | some tag =>
    match schemaOfFields (ruleOfFields e v) false v.fields with
    | none => none
    | some s =>
      if e.untagged then some s
      else match e.tag, e.content with
        | none, _ => some (if v.fields.isUnit then tagSch tag else .obj [(tag, true, s)] [])
        | some t, none => some (addTag s t tag)
        | some t, some c => some (if v.fields.isUnit then .obj [(t, true, tagSch tag)] [] else .obj [(t, true, tagSch tag), (c, true, s)] [])

def allM {α β} (f : α → Option β) : List α → Option (List β)
  | [] => some []
  | a :: as => match f a with
    | none => none
    | some b => (allM f as).map (b :: ·)

def schemaOfVariants (e : EnumDef) : Option Sch :=
  let written := e.variants.filter fun v => !(v.skip || v.skipSer)
  if e.variants.all (·.fields.isUnit) && e.tag.isNone && !e.untagged then
    (allM (fun v => name applyVariant e.renameAll v.ident v.rename) written).map .enm
  else
    (allM (variantSch e) written).map fun ss => if e.untagged then .anyOf ss else .oneOf ss

end Macro

/-! ## serde: what is written, what may be missing -/
namespace Serde

/-- `Name::serialize_name` after `rename_by_rules`: a `rename` wins, otherwise the rule applies to the unraw identifier -/
def name (apply : Rule → Str → Option Str) (ra : Option Rule) (ident : Str) (rename : Option Str) : Option Str :=
  match rename with
  | some r => some r
  | none => match ra with
    | none => some (unraw ident)
    | some rule => apply rule (unraw ident)

/-- a derived `Serialize` writes the field at all -/
def written (f : Field) : Bool := !(f.skip || f.skipSer)

/-- the key may be absent from the text: `Serialize` may leave it out (`skip_serializing_if`) or `Deserialize` fills it
(`default` on the field or container, `Option`, `skip_deserializing`) -/
def lenient (cdefault : Bool) (f : Field) : Bool := f.skipIf || f.dflt || cdefault || f.option || f.skipDe

/-- keys of a struct with named fields, in order: (key, must be present) — flattened fields are left out, they contribute their own keys -/
def keys (ra : Option Rule) (cdefault : Bool) (fs : List Field) : Option (List (Str × Bool)) :=
  Macro.allM (fun f => (name applyField ra f.ident f.rename).map fun n => (n, !lenient cdefault f)) (fs.filter fun f => written f && !f.flatten)

/-- the names an all-unit enum writes -/
def unitNames (e : EnumDef) : Option (List Str) :=
  Macro.allM (fun v => name applyVariant e.renameAll v.ident v.rename) (e.variants.filter fun v => !(v.skip || v.skipSer))

/-- the rule the fields of a variant follow: `variant.rename_all_rules().or(container.rename_all_fields_rules())` -/
def variantFieldRule (e : EnumDef) (v : Variant) : Option Rule := match v.renameAll with | some r => some r | none => e.renameAllFields

/-- how a variant appears on the wire -/
inductive Wire
  | bare (tag : Str)                         -- "Tag"
  | keyed (tag : Str)                        -- {"Tag": content}
  | inline (t tag : Str)                     -- {..content fields.., "t": "Tag"}
  | tagOnly (t tag : Str)                    -- {"t": "Tag"}
  | adjacent (t tag c : Str)                 -- {"t": "Tag", "c": content}
  | content                                  -- content alone
deriving DecidableEq

def wire (e : EnumDef) (v : Variant) : Option Wire :=
  (name applyVariant e.renameAll v.ident v.rename).map fun tag =>
    if e.untagged then .content
    else match e.tag, e.content with
      | none, _ => if v.fields.isUnit then .bare tag else .keyed tag
      | some t, none => .inline t tag
      | some t, some c => if v.fields.isUnit then .tagOnly t tag else .adjacent t tag c

end Serde

/-! ## values: what a derived `Serialize` writes for a struct, and validation of an object schema -/

/-- JSON values, as far as validation of an object schema looks at them -/
inductive J
  | null
  | leaf (tag : Nat)                       -- any non-null value of a field type (opaque)
  | obj (kvs : List (Str × J))

/-- what a field holds when the struct is serialized -/
inductive FieldVal
  | omitted                                -- skip_serializing_if said so
  | null                                   -- an Option that is None, written as null
  | val (j : J)                            -- anything else, already serialized

namespace Serde

/-- the key/value pairs a derived `Serialize` writes for a struct with named fields (no flatten) -/
def ser (ra : Option Rule) : List (Field × FieldVal) → Option (List (Str × J))
  | [] => some []
  | (f, v) :: rest =>
    if !(written f) then ser ra rest
    else match name applyField ra f.ident f.rename, ser ra rest with
      | some n, some kvs =>
        match v with
        | .omitted => some kvs
        | .null => some ((n, J.null) :: kvs)
        | .val j => some ((n, j) :: kvs)
      | _, _ => none

/-- the value is one serde can produce for that field, and `leafOK` says the non-null ones fit the field type's schema -/
def admissible (leafOK : Field → J → Bool) (f : Field) : FieldVal → Bool
  | .omitted => f.skipIf
  | .null => false                         -- excluded: the recorded finding KF-C16-option-null
  | .val j => leafOK f j

end Serde

def lookup (k : Str) : List (Str × J) → Option J
  | [] => none
  | (k', v) :: rest => if k' = k then some v else lookup k rest

/-- validation of an object schema whose property schemas are judged by `propOK` -/
def validatesObj (propOK : Str → J → Bool) (props : List (Str × Bool)) (kvs : List (Str × J)) : Bool :=
  props.all fun p => match lookup p.1 kvs with
    | some j => propOK p.1 j
    | none => !p.2

def expect : FieldVal → Option J
  | .omitted => none
  | .null => some J.null
  | .val j => some j

/-- the property schema under name `n` accepts `j`: some written field serialized under `n` has a type whose schema accepts `j` -/
def propOK (leafOK : Field → J → Bool) (ra : Option Rule) (fvs : List (Field × FieldVal)) (n : Str) (j : J) : Bool :=
  fvs.any fun p => Serde.written p.1 && decide (Serde.name Serde.applyField ra p.1.ident p.1.rename = some n) && leafOK p.1 j

/-! ## values of enums: what serde writes per representation, and validation of the shapes the derive builds -/

/-- JSON values as far as the validation of an enum schema looks at them: a string, an object, or anything else (opaque) -/
inductive JV
  | str (s : Str)
  | obj (kvs : List (Str × JV))
  | other (n : Nat)

def lookupV (k : Str) : List (Str × JV) → Option JV
  | [] => none
  | (k', v) :: rest => if k' = k then some v else lookupV k rest

/-- what serde writes for a variant in each representation, given its serialized content -/
def Serde.serVariant : Serde.Wire → JV → JV
  | .bare tag, _ => .str tag
  | .keyed tag, c => .obj [(tag, c)]
  | .inline t tag, c => (match c with | .obj kvs => .obj ((t, .str tag) :: kvs) | o => o)
  | .tagOnly t tag, _ => .obj [(t, .str tag)]
  | .adjacent t tag c', c => .obj [(t, .str tag), (c', c)]
  | .content, c => c

/-- JSON Schema validation for the shapes the derive builds; `leaf` judges the opaque ones (`<T as Schema>::schema()`, user functions, arrays) -/
def validates (leaf : Sch → JV → Bool) : Nat → Sch → JV → Bool
  | 0, _, _ => false
  | f + 1, .obj props flat, .obj kvs =>
    flat.isEmpty && props.all fun p => match lookupV p.1 kvs with
      | some j => validates leaf f p.2.2 j
      | none => !p.2.1
  | _ + 1, .obj _ _, _ => false
  | _ + 1, .enm names, .str s => names.contains s
  | _ + 1, .enm _, _ => false
  | f + 1, .oneOf ss, j => (ss.filter fun s => validates leaf f s j).length == 1
  | f + 1, .anyOf ss, j => ss.any fun s => validates leaf f s j
  | _ + 1, s, j => leaf s j

/-- how deep the wrapper of a representation nests the content -/
def Serde.Wire.depth : Serde.Wire → Nat
  | .keyed _ | .adjacent _ _ _ => 1
  | _ => 0

/-- a written variant of an externally tagged enum: its serialized name, whether it is a unit variant, the schema of its content -/
structure ExtVariant where
  tag : Str
  unit : Bool
  content : Sch

def ExtVariant.schema (v : ExtVariant) : Sch := if v.unit then .enm [v.tag] else .obj [(v.tag, true, v.content)] []
def ExtVariant.value (v : ExtVariant) (cj : JV) : JV := if v.unit then .str v.tag else .obj [(v.tag, cj)]


/-! ## reading a schema shape -/

/-- (name, required) of the direct properties of an object schema -/
def Sch.props : Sch → List (Str × Bool)
  | .obj ps _ => ps.map fun p => (p.1, p.2.1)
  | _ => []

/-- how a variant schema reads as a wire representation -/
def Sch.wire (unit : Bool) : Sch → Option Serde.Wire
  | .enm [tag] => some (.bare tag)
  | .obj [(tag, true, _)] [] => if unit then none else some (.keyed tag)
  | _ => none

end Ohkami.Derive
