/-! C03, framing for every content kind: the part of `Response` that decides how the end of the message is announced — the content
    (none / a payload of known length / an event stream), `Content-Length`, `Transfer-Encoding: chunked` — under the body operations of
    the public API (`set_text` / `set_html` / `set_json` / `set_payload`, `drop_content`, `set_stream`), `Response::complete`, and the HEAD
    path of `Router::handle` (content taken away before `complete`).  Other headers do not touch these three and are left out. -/
namespace Ohkami.Framing

inductive Content where | none | payload (n : Nat) | stream
deriving DecidableEq, Repr

structure St where
  status : Nat
  content : Content
  cl : Option Nat        -- the declared Content-Length, if the header is there
  te : Bool              -- Transfer-Encoding: chunked is there
deriving DecidableEq, Repr

inductive Op where | payload (n : Nat) | drop | stream
deriving DecidableEq, Repr

/-- `Response::new`: `Content-Length: 0`, no content -/
def new (status : Nat) : St := ⟨status, .none, some 0, false⟩

/-- `unannounce_stream`: the chunked coding goes with the stream that announced it -/
def unannounce (s : St) : St := if s.content = .stream then { s with te := false } else s

def apply (s : St) : Op → St
  | .payload n => { unannounce s with cl := some n, content := .payload n }
  | .drop => { unannounce s with cl := none, content := .none }
  | .stream => { s with cl := none, te := true, content := .stream }

def noLengthStatus (status : Nat) : Bool := (100 ≤ status && status ≤ 199) || status = 304

/-- `Response::complete` -/
def complete (s : St) : St :=
  if s.status = 204 then { s with cl := none, te := false, content := .none }
  else match s.content with
    | .stream => { s with cl := none }
    | .none => if s.cl.isNone && !s.te && !noLengthStatus s.status then { s with cl := some 0 } else s
    | .payload _ => s

/-- a handler's response built by `ops`, answered to GET (`head = false`) or to HEAD (`Router::handle` takes the content away, then completes) -/
def build (status : Nat) (ops : List Op) (head : Bool) : St :=
  let s := ops.foldl apply (new status)
  complete (if head then { s with content := .none } else s)

/-- the three shapes a response has after any history of body operations -/
inductive Shape (status : Nat) : St → Prop
  | none (cl : Option Nat) : Shape status ⟨status, .none, cl, false⟩
  | payload (n : Nat) : Shape status ⟨status, .payload n, some n, false⟩
  | stream : Shape status ⟨status, .stream, none, true⟩

theorem shape_fold (status : Nat) (ops : List Op) : Shape status (ops.foldl apply (new status)) :=
  List.foldlRecOn ops apply (Shape.none _) fun s hs op _ => by
    cases hs <;> cases op <;> constructor

theorem build_eq (status : Nat) (ops : List Op) (head : Bool) :
    ∃ s, Shape status s ∧ build status ops head = complete (if head then { s with content := .none } else s) :=
  ⟨_, shape_fold status ops, rfl⟩

/-! `complete` on a state whose fields are known: its equations, once -/
theorem complete_204 (c : Content) (cl : Option Nat) (te : Bool) : complete ⟨204, c, cl, te⟩ = ⟨204, .none, none, false⟩ := rfl

theorem complete_none {st : Nat} (h : st ≠ 204) (cl : Option Nat) (te : Bool) :
    complete ⟨st, .none, cl, te⟩ = ⟨st, .none, if cl.isNone && !te && !noLengthStatus st then some 0 else cl, te⟩ := by
  simp only [complete, h, if_false]
  split <;> rfl

theorem complete_payload {st : Nat} (h : st ≠ 204) (n : Nat) (cl : Option Nat) (te : Bool) :
    complete ⟨st, .payload n, cl, te⟩ = ⟨st, .payload n, cl, te⟩ := by
  simp only [complete, h, if_false]

theorem complete_stream {st : Nat} (h : st ≠ 204) (cl : Option Nat) (te : Bool) :
    complete ⟨st, .stream, cl, te⟩ = ⟨st, .stream, none, te⟩ := by
  simp only [complete, h, if_false]

/-- **Never both**: whatever the history, the status and the method, a completed response does not carry `Content-Length` beside `Transfer-Encoding` -/
theorem never_both (status : Nat) (ops : List Op) (head : Bool) : ¬ ((build status ops head).cl.isSome = true ∧ (build status ops head).te = true) := by
  obtain ⟨s, hs, e⟩ := build_eq status ops head
  rw [e]
  by_cases h204 : status = 204
  · subst h204
    cases hs <;> cases head <;> simp [complete_204]
  · cases hs <;> cases head <;> simp [complete_none h204, complete_payload h204, complete_stream h204]

/-- **204**: no content, no declared length, no coding -/
theorem no_content_204 (ops : List Op) (head : Bool) :
    (build 204 ops head).content = .none ∧ (build 204 ops head).cl = none ∧ (build 204 ops head).te = false := by
  obtain ⟨s, hs, e⟩ := build_eq 204 ops head
  rw [e]
  cases hs <;> cases head <;> simp [complete_204]

/-- **A stream goes out chunked and without a declared length; a payload under its own length and not chunked** (GET, status other than 204) -/
theorem content_announced (status : Nat) (ops : List Op) (h204 : status ≠ 204) :
    ((build status ops false).content = .stream → (build status ops false).te = true ∧ (build status ops false).cl = none) ∧
    (∀ n, (build status ops false).content = .payload n → (build status ops false).cl = some n ∧ (build status ops false).te = false) := by
  obtain ⟨s, hs, e⟩ := build_eq status ops false
  rw [e]
  cases hs <;> simp [complete_none h204, complete_payload h204, complete_stream h204]

/-- **The end of the message can be determined** (GET): a declared length or the chunked coding — or a status that never has content (1xx, 204, 304) -/
theorem end_determinable (status : Nat) (ops : List Op) :
    (build status ops false).cl.isSome = true ∨ (build status ops false).te = true ∨ status = 204 ∨ noLengthStatus status = true := by
  obtain ⟨s, hs, e⟩ := build_eq status ops false
  rw [e]
  by_cases h204 : status = 204
  · exact .inr (.inr (.inl h204))
  · cases hs with
    | none cl =>
      simp only [Bool.false_eq_true, if_false, complete_none h204]
      cases cl <;> cases noLengthStatus status <;> simp
    | payload n => simp [complete_payload h204]
    | stream => simp [complete_stream h204]

end Ohkami.Framing
