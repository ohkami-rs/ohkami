import OhkamiModel.M.Shutdown
/-! C18: the interrupt protocol of `M/Shutdown.lean`.  The unrepaired code loses the interrupt along an explicit schedule; for the
    repaired code an explicit inductive invariant (`inv`) excludes it and makes the accept loop return under load; the `WaitGroup`
    counter equals the number of live sessions. -/
namespace Ohkami.Shutdown2

theorem mem_reach_of_mem (fixed flagFirst : Bool) (s : St) : ∀ (n : Nat) (acc : List St), s ∈ acc → s ∈ reach fixed flagFirst n acc
  | 0, _, h => h
  | n + 1, _, h => mem_reach_of_mem fixed flagFirst s n _ (List.mem_eraseDups.mpr (List.mem_append_left _ h))

theorem mem_reach_of_path (fixed flagFirst : Bool) (ws : List Who) : ∀ (n : Nat) (acc : List St) (s s' : St),
    s ∈ acc → ws.length ≤ n → ws.foldlM (step fixed flagFirst) s = some s' → s' ∈ reach fixed flagFirst n acc := by
  induction ws with
  | nil => intro n acc s s' hs _ h; cases h; exact mem_reach_of_mem fixed flagFirst s n acc hs
  | cons w ws ih =>
    intro n acc s s' hs hn h
    obtain ⟨m, rfl⟩ : ∃ m, n = m + 1 := ⟨n - 1, by simp at hn; omega⟩
    obtain ⟨s1, h1, h⟩ := Option.bind_eq_some_iff.mp h
    rw [reach]
    refine ih m _ s1 s' (List.mem_eraseDups.mpr (List.mem_append_right _ ?_)) (Nat.le_of_succ_le_succ hn) h
    refine List.mem_flatMap.mpr ⟨s, hs, List.mem_filterMap.mpr ⟨some s1, ?_, rfl⟩⟩
    rw [← h1]; cases w <;> simp

/-- The race in the code without the re-check: the poll finds nothing to accept and the flag clear; the handler runs to its end and
    finds no waker to wake; the poll publishes its waker and parks, for ever. -/
theorem lost_wakeup_in_old_code : (reach false true 24 [init]).any (lost false true) = true :=
  List.any_eq_true.mpr ⟨⟨true, true, false, .hDone, .pending, false, false⟩,
    mem_reach_of_path false true [.poller, .poller, .handler, .handler, .handler, .poller] 24 [init] init _
      (List.mem_singleton.mpr rfl) (by decide) (by decide), by decide⟩

/-- Why the interrupt is not lost: the flag is set as soon as the handler has begun; a poll about to re-check the flag has its
    waker published unless the handler has begun; and a parked poll that nobody has woken has its waker where the handler
    will still find it (in WAKER while the handler has not swapped, in the handler's hands after). -/
def inv (s : St) : Bool :=
  s.catch_ == (s.hpc != .h0) && (!(s.ppc == .p3 && s.hpc == .h0) || s.waker) &&
  (!(s.ppc == .pending && !s.wakePending) || (s.hpc == .h0 || s.hpc == .h1) && s.waker || s.hpc == .h2 && s.taken)

theorem forall_St {P : St → Prop} (h : ∀ c wk t wp cn, ∀ hp ∈ [HPc.h0, .h1, .h2, .hDone],
    ∀ pp ∈ [PPc.p0, .p1, .p2, .p3, .pending, .returnedNone], P ⟨c, wk, t, hp, pp, wp, cn⟩) (s : St) : P s := by
  obtain ⟨c, wk, t, hp, pp, wp, cn⟩ := s
  exact h c wk t wp cn hp (by cases hp <;> simp) pp (by cases pp <;> simp)

-- the state space is finite: evaluated over all 768 states
theorem inv_facts : ∀ s, inv s = true →
    (∀ w ∈ [Who.handler, .poller, .reactor, .arrive], (step true true s w).all inv = true) ∧ lost true true s = false ∧
    (s.hpc = .hDone → ∀ p ∈ patterns 3, (runLoad true true s p).ppc = .returnedNone) :=
  forall_St (by decide +kernel)

theorem inv_reachable (s : St) (h : Reachable true true s) : inv s = true := by
  induction h with
  | init => rfl
  | step s s' w _ hst ih =>
    have := (inv_facts s ih).1 w (by cases w <;> simp)
    rwa [hst] at this

theorem no_lost_wakeup (s : St) (h : Reachable true true s) : lost true true s = false :=
  (inv_facts s (inv_reachable s h)).2.1

/-- under load: once the handler has run, the loop returns within three of its own steps whatever arrives meanwhile -/
theorem returns_under_load (s : St) (h : Reachable true true s) (hd : s.hpc = .hDone) (p : List Bool) (hp : p ∈ patterns 3) :
    (runLoad true true s p).ppc = .returnedNone :=
  (inv_facts s (inv_reachable s h)).2.2 hd p hp

theorem mem_patterns : ∀ (n : Nat) (p : List Bool), p.length = n → p ∈ patterns n
  | 0, [], _ => by simp [patterns]
  | n + 1, b :: p, h => by
    simp only [patterns, List.mem_flatMap]
    refine ⟨p, mem_patterns n p (by simpa using h), ?_⟩
    cases b <;> simp

/-- the code as it was (the flag is looked at only when `accept()` is `Pending`): with a connection ready at every poll the loop has
    not returned 64 polls after the interrupt was delivered completely (it never looks at the flag) -/
theorem keeps_accepting_in_old_code :
    let s := ((step true false init .handler).bind fun s => (step true false s .handler).bind fun s => step true false s .handler).getD init
    s.hpc = .hDone ∧ (runLoad true false s (List.replicate 64 true)).ppc ≠ .returnedNone := by decide +kernel

/-! ### WaitGroup: the counter is the number of live tokens, `poll` is Ready exactly at zero -/

/-- a history in which no token is dropped before it was created -/
def wvalid : Nat → List WOp → Prop
  | _, [] => True
  | c, .add :: ops => wvalid (c + 1) ops
  | c, .done :: ops => 0 < c ∧ wvalid (c - 1) ops
  | c, .poll :: ops => wvalid c ops

def live : Nat → List WOp → Nat
  | c, [] => c
  | c, .add :: ops => live (c + 1) ops
  | c, .done :: ops => live (c - 1) ops
  | c, .poll :: ops => live c ops

theorem wstep_done (c : Nat) (h0 : 0 < c) (hc : c < 2 ^ 64) : wstep c .done = (c - 1, none) := by
  rw [wstep, show c + 2 ^ 64 - 1 = (c - 1) + 2 ^ 64 by omega, Nat.add_mod_right, Nat.mod_eq_of_lt (by omega)]

/-- the answers a sequence of polls *should* give: Ready exactly when no session token is alive at that moment -/
def livePolls : Nat → List WOp → List Bool
  | _, [] => []
  | c, .add :: ops => livePolls (c + 1) ops
  | c, .done :: ops => livePolls (c - 1) ops
  | c, .poll :: ops => (c == 0) :: livePolls c ops

/-- in a valid history that stays below 2^64 tokens the counter never wraps: it is the number of live tokens, and each poll answers
    Ready iff that number is zero -/
theorem wcount_wrun (ops : List WOp) (c : Nat) (hv : wvalid c ops) (hb : c + ops.length < 2 ^ 64) :
    wcount c ops = live c ops ∧ wrun c ops = livePolls c ops := by
  induction ops generalizing c with
  | nil => exact ⟨rfl, rfl⟩
  | cons op ops ih =>
    rw [List.length_cons] at hb
    cases op with
    | add => exact ih (c + 1) hv (by omega)
    | done => rw [wcount, wrun, wstep_done c hv.1 (by omega)]; exact ih _ hv.2 (by omega)
    | poll => exact ⟨(ih c hv (by omega)).1, congrArg _ (ih c hv (by omega)).2⟩

/-- what `wg.await` observes after a history: Ready iff every token that was added has been dropped -/
theorem poll_ready_iff (ops : List WOp) (c : Nat) (hv : wvalid c ops) (hb : c + ops.length < 2 ^ 64) :
    (wstep (wcount c ops) .poll).2 = some (live c ops == 0) := by
  rw [(wcount_wrun ops c hv hb).1]; rfl

/-- **`howl` waits exactly for the in-flight sessions**: in every valid history (any number of sessions, any completion
order, polls anywhere), each poll of the wait group answers Ready iff no session is alive at that moment — never while
one is still being served, and always once the last one has finished. -/
theorem wrun_exact (ops : List WOp) (c : Nat) (hv : wvalid c ops) (hb : c + ops.length < 2 ^ 64) :
    wrun c ops = livePolls c ops :=
  (wcount_wrun ops c hv hb).2

end Ohkami.Shutdown2
