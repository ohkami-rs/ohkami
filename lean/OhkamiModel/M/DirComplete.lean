import OhkamiModel.M.Dir
import OhkamiModel.P.StaticTable
/-! C19: what a successful `derive` is (`derive_spec`): every file of the list is registered, under its own index, at
    each of its paths, and the table holds nothing else; its segments are valid ones, so the table is well-formed. -/
namespace Ohkami.Dir
open Ohkami

theorem validSegment_ne_nil {s : Bytes} (h : validSegment s = true) : s ≠ [] := by
  intro e; subst e; simp [validSegment] at h

theorem derive_spec (mount omits : List Bytes) : ∀ (files : List FileEntry) (i : Nat) (routes : List (Route × Nat)),
    derive mount omits files i = .ok routes →
    (∀ (k : Nat) (f : FileEntry), files[k]? = some f →
      ∃ paths mime, fileRoutes omits f = .ok (paths, mime) ∧ ∀ p ∈ paths, ((mount ++ p).map Seg.static, i + k) ∈ routes) ∧
    (∀ (r : Route) (j : Nat), (r, j) ∈ routes →
      ∃ k f paths mime p, files[k]? = some f ∧ j = i + k ∧ fileRoutes omits f = .ok (paths, mime) ∧ p ∈ paths ∧
        (∀ s ∈ p, validSegment s = true) ∧ r = (mount ++ p).map Seg.static) := by
  intro files i
  -- one case per way through `derive`: the empty list, the registering one, and the refusals
  fun_induction derive mount omits files i
  case case1 =>
    rintro _ ⟨⟩
    simp
  case case5 f0 rest i paths mime hfr hvalid more hmore ih =>
    rintro _ ⟨⟩
    obtain ⟨ihC, ihS⟩ := ih more hmore
    have hvalid : ∀ p ∈ paths, ∀ s ∈ p, validSegment s = true := by simpa using hvalid
    constructor
    · intro k f hk
      cases k with
      | zero =>
        cases hk
        exact ⟨paths, mime, hfr, fun p hp => List.mem_append_left _ (List.mem_map.mpr ⟨p, hp, rfl⟩)⟩
      | succ k =>
        obtain ⟨ps, m, hf, hmem⟩ := ihC k f hk
        refine ⟨ps, m, hf, fun p hp => List.mem_append_right _ ?_⟩
        rw [show i + (k + 1) = i + 1 + k by omega]
        exact hmem p hp
    · intro r j hrj
      rcases List.mem_append.mp hrj with h0 | h1
      · obtain ⟨p, hp, he⟩ := List.mem_map.mp h0
        cases he
        exact ⟨0, f0, paths, mime, p, rfl, rfl, hfr, hp, hvalid p hp, rfl⟩
      · obtain ⟨k, f, ps, m, p, hk, rfl, hf, hp, hv, rfl⟩ := ihS r j h1
        exact ⟨k + 1, f, ps, m, p, hk, by omega, hf, hp, hv, rfl⟩
  all_goals exact fun _ h => nomatch h

/-- the derived table holds no empty static segment (the mount route has none, file names are checked) -/
theorem derive_wf (mount omits : List Bytes) (hmount : ∀ s ∈ mount, s ≠ []) : ∀ (files : List FileEntry) (i : Nat) (routes : List (Route × Nat)),
    derive mount omits files i = .ok routes → WFRoutes routes := by
  intro files i routes h rh hrh hbad
  obtain ⟨_, _, _, _, p, _, _, _, _, hvalid, hr⟩ := (derive_spec mount omits files i routes h).2 rh.1 rh.2 hrh
  rw [hr] at hbad
  obtain ⟨s, hs, he⟩ := List.mem_map.mp hbad
  cases he
  rcases List.mem_append.mp hs with h1 | h2
  · exact hmount _ h1 rfl
  · exact validSegment_ne_nil (hvalid _ h2) rfl

end Ohkami.Dir
