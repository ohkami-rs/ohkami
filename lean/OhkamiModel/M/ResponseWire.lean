import OhkamiModel.M.ResponseProofs
/-! C03: framing — Content-Length says what the body is, for every history that leaves it to the body setters. -/
namespace Ohkami.Response
open Ohkami

/-- the operation does not set, append to or remove Content-Length by hand (the body setters manage it) -/
def ROp.leavesCL (c : Cfg) : ROp → Prop
  | .h (.insert k _) | .h (.remove k) | .h (.append k _) => k ≠ c.kCL
  | .x op => stdIdx c op.name ≠ some c.kCL
  | _ => True

/-- the framing invariant: Content-Length says what the body is -/
def Fr (c : Cfg) (r : Resp) : Prop :=
  match r.body with
  | some b => r.headers.std.get c.kCL = some (dec b.length)
  | none => r.headers.std.get c.kCL = some zero ∨ r.headers.std.get c.kCL = none

theorem WF_hop (c : Cfg) (r : Resp) (hw : r.headers.std.WF c.n) (op : HOp) (hk : op.keyOk c.n) : (hop c r op).headers.std.WF c.n :=
  WF_apply c.nameLen c.n r.headers hw op hk

theorem get_hop (c : Cfg) (r : Resp) (hw : r.headers.std.WF c.n) (op : HOp) (hk : op.keyOk c.n) (k' : Nat) :
    (hop c r op).headers.std.get k' = absStd r.headers.std.get op k' := std_refines c.nameLen c.n r.headers hw op hk k'

theorem get_hop_insert (c : Cfg) (r : Resp) (hw : r.headers.std.WF c.n) (k : Nat) (hk : k < c.n) (v : Bytes) :
    (hop c r (.insert k v)).headers.std.get k = some v :=
  (get_hop c r hw (.insert k v) hk k).trans (if_pos rfl)

theorem get_hop_remove (c : Cfg) (r : Resp) (hw : r.headers.std.WF c.n) (k : Nat) (hk : k < c.n) :
    (hop c r (.remove k)).headers.std.get k = none :=
  (get_hop c r hw (.remove k) hk k).trans (if_pos rfl)

theorem WF_applyOp (c : Cfg) (ok : c.OK) (r : Resp) (op : ROp) (hw : r.headers.std.WF c.n) (hk : op.keyOk c.n) :
    (applyOp c r op).headers.std.WF c.n := by
  cases op with
  | h op => exact WF_hop c r hw op hk
  | x op => exact WF_hop c r hw _ (resolveX_keyOk c r.headers op)
  | payload ct b => exact WF_hop c _ (WF_hop c r hw (.insert c.kCT ct) ok.ct) _ ok.cl
  | drop => exact WF_hop c _ (WF_hop c { r with body := none } hw (.remove c.kCT) ok.ct) _ ok.cl

theorem leavesCL_h_iff (c : Cfg) (op : HOp) : (ROp.h op).leavesCL c ↔ op.key ≠ some c.kCL := by
  cases op <;> simp [ROp.leavesCL, HOp.key]

theorem Fr_hop (c : Cfg) (r : Resp) (hw : r.headers.std.WF c.n) (op : HOp) (hk : op.keyOk c.n) (hl : op.key ≠ some c.kCL)
    (hf : Fr c r) : Fr c (hop c r op) := by
  unfold Fr at hf ⊢
  rw [get_hop c r hw op hk, absStd_of_key_ne _ _ _ hl]
  exact hf

theorem Fr_applyOp (c : Cfg) (ok : c.OK) (r : Resp) (op : ROp) (hw : r.headers.std.WF c.n) (hf : Fr c r) (hk : op.keyOk c.n) (hl : op.leavesCL c) :
    Fr c (applyOp c r op) := by
  cases op with
  | h op => exact Fr_hop c r hw op hk ((leavesCL_h_iff c op).mp hl) hf
  | x op => exact Fr_hop c r hw _ (resolveX_keyOk c r.headers op) (by rw [resolveX_key]; exact hl) hf
  | payload ct b => exact get_hop_insert c (hop c r (.insert c.kCT ct)) (WF_hop c r hw _ ok.ct) c.kCL ok.cl (dec b.length)
  | drop => exact .inr (get_hop_remove c (hop c { r with body := none } (.remove c.kCT)) (WF_hop c _ hw _ ok.ct) c.kCL ok.cl)

theorem status_applyOp (c : Cfg) (r : Resp) (op : ROp) : (applyOp c r op).status = r.status := by
  cases op <;> rfl

theorem fold_invs (c : Cfg) (ok : c.OK) (ops : List ROp) (status : Nat) (date : Bytes)
    (hk : ∀ op ∈ ops, op.keyOk c.n) (hl : ∀ op ∈ ops, op.leavesCL c) :
    let r := ops.foldl (applyOp c) (new c status date)
    r.headers.std.WF c.n ∧ Fr c r ∧ r.status = status := by
  have hw0 : (hop c ⟨status, Headers.empty c.n, none⟩ (.insert c.kDate date)).headers.std.WF c.n := WF_hop c _ (WF_new c.n) _ ok.date
  refine List.foldlRecOn ops (applyOp c) (motive := fun r => r.headers.std.WF c.n ∧ Fr c r ∧ r.status = status)
    ⟨WF_hop c _ hw0 (.insert c.kCL zero) ok.cl, ?_, rfl⟩ fun r ⟨hw, hf, hs⟩ op hop =>
      ⟨WF_applyOp c ok r op hw (hk op hop), Fr_applyOp c ok r op hw hf (hk op hop) (hl op hop), by rw [status_applyOp, hs]⟩
  exact .inl (get_hop_insert c _ hw0 c.kCL ok.cl zero)

/-- **Framing.**  Whatever sequence of public operations built the response (headers set, appended, removed and re-set; bodies set,
replaced, dropped — Content-Length itself left to the body setters): a 204 goes out with no body and no Content-Length; any other
response with a body declares exactly the number of body bytes; one without a body declares `Content-Length: 0` unless its status
(1xx, 304) forbids a body anyway. -/
theorem framing (c : Cfg) (ok : c.OK) (status : Nat) (date : Bytes) (ops : List ROp)
    (hk : ∀ op ∈ ops, op.keyOk c.n) (hl : ∀ op ∈ ops, op.leavesCL c) :
    let r := build c status date ops
    r.status = status ∧
    (status = 204 → r.body = none ∧ r.headers.std.get c.kCL = none) ∧
    (status ≠ 204 → ∀ b, r.body = some b → r.headers.std.get c.kCL = some (dec b.length)) ∧
    (status ≠ 204 → r.body = none → mayHaveNoLength status = false → r.headers.std.get c.kCL = some zero) := by
  obtain ⟨hw, hf, hs⟩ := fold_invs c ok ops status date hk hl
  unfold build
  generalize ops.foldl (applyOp c) (new c status date) = r0 at hw hf hs ⊢
  dsimp only
  subst hs
  unfold Fr at hf
  -- 204 with a Content-Length (it is taken away); 204 without; no body and a length to declare (`0` is put in); unchanged (the invariant
  -- `Fr` is the claim)
  rcases complete_cases c r0 with ⟨h204, _, e⟩ | ⟨h204, hn, e⟩ | ⟨h204, hb, _, _, e⟩ | ⟨h204, hsame, e⟩ <;> rw [e]
  · exact ⟨rfl, fun _ => ⟨rfl, get_hop_remove c r0 hw c.kCL ok.cl⟩, fun h => absurd h204 h, fun h => absurd h204 h⟩
  · exact ⟨rfl, fun _ => ⟨rfl, hn⟩, fun h => absurd h204 h, fun h => absurd h204 h⟩
  · exact ⟨rfl, fun h => absurd h h204, fun _ b hb' => (nomatch hb.symm.trans hb'), fun _ _ _ => get_hop_insert c r0 hw c.kCL ok.cl zero⟩
  · refine ⟨rfl, fun h => absurd h h204, fun _ b hb => ?_, fun _ hb hm => ?_⟩ <;> rw [hb] at hf
    · exact hf
    · exact hf.resolve_right fun hn => nomatch (hsame hb hn).symm.trans hm

end Ohkami.Response
