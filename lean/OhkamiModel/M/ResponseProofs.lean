import OhkamiModel.M.Response
import OhkamiModel.P.RespInv
/-! C03: the serializer never overruns its buffer — for every status, date and operation history. -/
namespace Ohkami.Response
open Ohkami

theorem renderHeaders_length (c : Cfg) (h : Headers) :
    (renderHeaders c h).length
      = stdLen (fStd c.nameLen) h.std + customLen h.custom + cookieLen h.cookies + crlfLen := by
  have e1 (kv : Nat × Bytes) : (renderStd c kv).length = fStd c.nameLen kv := by
    simp only [renderStd, List.length_append, fStd, Cfg.nameLen]; rfl
  have e2 (nv : Bytes × Bytes) : (renderX nv).length = gX nv := by
    simp only [renderX, List.length_append, gX]; rfl
  have e3 (l : Bytes) : (renderCookie l).length = 12 + l.length + crlfLen := by
    simp only [renderCookie, List.length_append]; rfl
  simp only [renderHeaders, List.length_append, List.length_flatMap, e1, e2, e3]
  rfl

/-- an operation of the alphabet addresses an existing standard header (always true of the typed API) -/
def ROp.keyOk (n : Nat) : ROp → Prop
  | .h op => op.keyOk n
  | _ => True

theorem stdIdx_lt (c : Cfg) (n : Bytes) (k : Nat) (h : stdIdx c n = some k) : k < c.n := by
  obtain ⟨hlt, _⟩ := List.findIdx?_eq_some_iff_getElem.mp h
  exact hlt

theorem resolveX_key (c : Cfg) (h : Headers) (op : XOp) : (resolveX c h op).key = stdIdx c op.name := by
  fun_cases resolveX c h op <;> simp only [HOp.key, XOp.name, *]

theorem resolveX_keyOk (c : Cfg) (h : Headers) (op : XOp) : (resolveX c h op).keyOk c.n :=
  (HOp.keyOk_iff _ _).mpr fun k hk => stdIdx_lt c op.name k (resolveX_key c h op ▸ hk)

/-- The four things `complete` does, each with the condition under which it does it. -/
theorem complete_cases (c : Cfg) (r : Resp) :
    (r.status = 204 ∧ (r.headers.std.get c.kCL).isSome = true ∧ complete c r = { hop c r (.remove c.kCL) with body := none }) ∨
    (r.status = 204 ∧ r.headers.std.get c.kCL = none ∧ complete c r = { r with body := none }) ∨
    (r.status ≠ 204 ∧ r.body = none ∧ r.headers.std.get c.kCL = none ∧ mayHaveNoLength r.status = false ∧
      complete c r = hop c r (.insert c.kCL zero)) ∨
    (r.status ≠ 204 ∧ (r.body = none → r.headers.std.get c.kCL = none → mayHaveNoLength r.status = true) ∧ complete c r = r) := by
  fun_cases complete c r
  -- status 204 (`r'` is `r` with Content-Length taken away if it is there), no body and a length to declare, no body otherwise, a body
  case case1 h204 r' =>
    cases hg : r.headers.std.get c.kCL with
    | none => exact .inr (.inl ⟨h204, rfl, by simp [r', hg]⟩)
    | some v => exact .inl ⟨h204, rfl, by simp [r', hg]⟩
  case case2 h204 hb hc =>
    simp only [Bool.and_eq_true, Option.isNone_iff_eq_none, Bool.not_eq_eq_eq_not, Bool.not_true] at hc
    exact .inr (.inr (.inl ⟨h204, hb, hc.1, hc.2, rfl⟩))
  case case3 h204 hb hc => exact .inr (.inr (.inr ⟨h204, fun _ hn => by simpa [hn] using hc, rfl⟩))
  case case4 h204 b hb => exact .inr (.inr (.inr ⟨h204, fun hn => (nomatch hb.symm.trans hn), rfl⟩))

/-- **What `build` does to the headers**: starting from the empty store it applies header operations only — inserts and removals of
the three headers its `Cfg` names, the operations the history names, and those `.x` resolves to.  So a property of header stores
that these keep holds of every built response. -/
theorem build_headers_ind (c : Cfg) (P : Headers → Prop) (A : ROp → Prop) (h0 : P (Headers.empty c.n))
    (hown : ∀ h k, k = c.kCL ∨ k = c.kCT ∨ k = c.kDate → P h →
      (∀ v, P (h.apply c.nameLen (.insert k v))) ∧ P (h.apply c.nameLen (.remove k)))
    (hh : ∀ h op, A (.h op) → P h → P (h.apply c.nameLen op))
    (hx : ∀ h op, A (.x op) → P h → P (h.apply c.nameLen (resolveX c h op)))
    (status : Nat) (date : Bytes) (ops : List ROp) (hA : ∀ op ∈ ops, A op) : P (build c status date ops).headers := by
  have hcl := fun h => hown h c.kCL (.inl rfl)
  have hct := fun h => hown h c.kCT (.inr (.inl rfl))
  have hfold : P (ops.foldl (applyOp c) (new c status date)).headers := by
    have hnew : P (new c status date).headers := (hcl _ ((hown _ c.kDate (.inr (.inr rfl)) h0).1 date)).1 zero
    refine List.foldlRecOn ops (applyOp c) (motive := fun r => P r.headers) hnew fun r hr op hop => ?_
    cases op with
    | h op => exact hh _ _ (hA _ hop) hr
    | x op => exact hx _ _ (hA _ hop) hr
    | payload ct b => exact (hcl _ ((hct _ hr).1 ct)).1 _
    | drop => exact (hcl _ (hct _ hr).2).2
  -- `complete` removes Content-Length, sets it to `0`, or leaves the headers as they are
  unfold build
  generalize ops.foldl (applyOp c) (new c status date) = r at hfold ⊢
  rcases complete_cases c r with ⟨_, _, e⟩ | ⟨_, _, e⟩ | ⟨_, _, _, _, e⟩ | ⟨_, _, e⟩ <;> rw [e]
  · exact (hcl _ hfold).2
  · exact hfold
  · exact (hcl _ hfold).1 zero
  · exact hfold

theorem Inv_build (c : Cfg) (ok : c.OK) (status : Nat) (date : Bytes) (ops : List ROp) (hk : ∀ op ∈ ops, op.keyOk c.n) :
    (build c status date ops).headers.Inv c.nameLen c.n := by
  refine build_headers_ind c (·.Inv c.nameLen c.n) (·.keyOk c.n) (Inv_empty _ _) (fun h k hown hi => ?_)
    (fun h op ha hi => Inv_apply _ _ h hi op ha)
    (fun h op _ hi => Inv_apply _ _ h hi _ (resolveX_keyOk c h op)) status date ops hk
  have : k < c.n := by
    rcases hown with rfl | rfl | rfl
    · exact ok.cl
    · exact ok.ct
    · exact ok.date
  exact ⟨fun v => Inv_apply _ _ h hi (.insert k v) this, Inv_apply _ _ h hi (.remove k) this⟩

theorem render_length_of_Inv (c : Cfg) (r : Resp) (hi : r.headers.Inv c.nameLen c.n) : (render c r).length = declared c r := by
  unfold render declared
  simp only [List.length_append, renderHeaders_length, hi.size_eq]

/-- **C03, buffer part**: for every status, date value and finite sequence of public operations, the bytes
`send` writes are exactly as many as the capacity it reserved — no `push_unchecked!` overruns. -/
theorem send_exact (c : Cfg) (ok : c.OK) (status : Nat) (date : Bytes) (ops : List ROp)
    (hk : ∀ op ∈ ops, op.keyOk c.n) :
    (render c (build c status date ops)).length = declared c (build c status date ops) :=
  render_length_of_Inv c _ (Inv_build c ok status date ops hk)

theorem send_no_overrun (c : Cfg) (ok : c.OK) (status : Nat) (date : Bytes) (ops : List ROp)
    (hk : ∀ op ∈ ops, op.keyOk c.n) : noOverrun c (build c status date ops) :=
  Nat.le_of_eq (send_exact c ok status date ops hk)

end Ohkami.Response
