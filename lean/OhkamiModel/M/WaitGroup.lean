/-! C18, second half: `howl` awaits the wait group after the accept loop has ended.  `WaitGroup::poll` loads the counter of live
    sessions; zero: `Ready`; otherwise it wakes its own task (`wake_by_ref`) and returns `Pending` — the task is never parked, so
    no session's end can be missed.  Sessions end (`fetch_sub`) at any moment, also between the load and the wake.
    Transition system over (live sessions, the awaiting task's program counter, "a wake is pending"). -/
namespace Ohkami.WG

inductive Pc where | idle | loaded | ready
deriving DecidableEq, Repr

structure St where
  count : Nat          -- sessions in flight
  pc : Pc              -- the task awaiting the group: between polls / inside `poll` after loading a non-zero counter / returned
  wake : Bool          -- the task has been woken since its last poll began: the executor will poll it again
deriving DecidableEq, Repr

inductive Act where | done | load | wakeSelf
deriving DecidableEq, Repr

/-- `.await` schedules the first poll -/
def init (n : Nat) : St := ⟨n, .idle, true⟩

def step (s : St) : Act → Option St
  | .done => if 0 < s.count then some { s with count := s.count - 1 } else none               -- `Drop for WaitGroup`: fetch_sub, nothing else
  | .load => if s.pc = .idle then                                                            -- (a spurious poll is allowed: no `wake` needed)
      some (if s.count = 0 then { s with pc := .ready, wake := false } else { s with pc := .loaded, wake := false }) else none
  | .wakeSelf => if s.pc = .loaded then some { s with pc := .idle, wake := true } else none  -- `wake_by_ref`, then `Pending`

inductive Reachable (n : Nat) : St → Prop
  | init : Reachable n (init n)
  | step (s s' : St) (a : Act) : Reachable n s → step s a = some s' → Reachable n s'

/-- the inductive invariant: a task between polls always has a wake pending, and it has returned only with no session in flight -/
def Inv (s : St) : Prop := (s.pc = .idle → s.wake = true) ∧ (s.pc = .ready → s.count = 0)

theorem inv_init (n : Nat) : Inv (init n) := by simp [Inv, init]

theorem inv_step (s s' : St) (a : Act) (h : Inv s) (hs : step s a = some s') : Inv s' := by
  revert hs
  fun_cases step s a
  -- a session ends: the counter was positive, so the task had not returned
  case case1 hpos => rintro ⟨⟩; exact ⟨h.1, fun hr => by have := h.2 hr; omega⟩
  -- the load: the task leaves `idle`, and reaches `ready` only on a zero counter
  case case3 _ =>
    rintro ⟨⟩
    split
    · exact ⟨nofun, fun _ => ‹_›⟩
    · exact ⟨nofun, nofun⟩
  -- `wake_by_ref`: back to `idle` with the wake pending
  case case5 _ => rintro ⟨⟩; exact ⟨fun _ => rfl, nofun⟩
  all_goals exact nofun

theorem inv_reachable (n : Nat) (s : St) (h : Reachable n s) : Inv s := by
  induction h with
  | init => exact inv_init n
  | step s s' a _ hs ih => exact inv_step s s' a ih hs

/-- what the awaiting task does when the executor lets it run: one poll from the top, or the rest of the poll it is in -/
def pollerStep (s : St) : St :=
  match s.pc with
  | .idle => (step s .load).getD s
  | .loaded => (step s .wakeSelf).getD s
  | .ready => s

/-- once the last session has ended, the task returns within three of its own steps, wherever it was -/
theorem progress (s : St) (hc : s.count = 0) : (pollerStep (pollerStep (pollerStep s))).pc = .ready := by
  obtain ⟨c, pc, w⟩ := s
  simp only at hc
  subst hc
  cases pc <;> simp [pollerStep, step]

/-! ### executable form for the correspondence run -/
inductive Op where | add | done | poll (fireAt : Nat)
deriving Repr

/-- one `poll` of the harness: the whole of `WaitGroup::poll`, with the oldest live session ending at the `fireAt`-th touch of the
    waker during the poll (`0` = never); the poll of the code touches the waker once (`wake_by_ref`), after the load -/
def runPoll (s : St) (fireAt : Nat) : St × Bool × Bool × Bool :=
  let s0 : St := { s with pc := .idle, wake := false }
  match step s0 .load with
  | none => (s, false, false, false)
  | some s1 =>
    if s1.pc = .ready then ({ s1 with pc := .idle }, true, false, false)
    else
      let fired := fireAt = 1 ∧ 0 < s1.count
      let s2 := if fired then (step s1 .done).getD s1 else s1
      let s3 := (step s2 .wakeSelf).getD s2
      (s3, false, s3.wake, fired)

def run : St → List Op → List (Bool × Bool × Bool) → List (Bool × Bool × Bool) × Bool
  | s, [], acc => (acc.reverse, s.wake)
  | s, .add :: ops, acc => run { s with count := s.count + 1 } ops acc
  | s, .done :: ops, acc => run ((step s .done).getD s) ops acc
  | s, .poll n :: ops, acc =>
    let (s', r, w, f) := runPoll s n
    run s' ops ((r, w, f) :: acc)

end Ohkami.WG
