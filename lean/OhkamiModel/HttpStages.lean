import OhkamiModel.Http
/-! C02, C06: `parse` read as three stages — the request line (`requestLine`), the header loop (`headers`) and the body (`body`, after what the
    header block has `announced`) — each with what it does on input of the accepted shape and what an accepted result says about the
    input.  The statements about `parse` and `finish` compose these. -/
namespace Ohkami.Http
open Ohkami.P

def stepH (acc : List (Nat × Bytes) × List (Bytes × Bytes)) (kv : Bytes × Bytes) : List (Nat × Bytes) × List (Bytes × Bytes) :=
  match stdIndex kv.1 with
  | some i => (appendStd acc.1 i kv.2, acc.2)
  | none => (acc.1, appendCustom acc.2 kv.1 kv.2)

def foldHeaders (hs : List (Bytes × Bytes)) : List (Nat × Bytes) × List (Bytes × Bytes) := hs.foldl stepH ([], [])

/-- what a header line accepted by the loop looks like -/
def LineOK (kv : Bytes × Bytes) : Prop :=
  (∀ b ∈ kv.1, b ≠ COLON) ∧ (∀ b ∈ kv.2, b ≠ CR) ∧ validUtf8 kv.1 = true ∧ validUtf8 kv.2 = true ∧ consume [CR, LF] (kv.1 ++ [COLON]) = none ∧
  isName kv.1 = true ∧         -- the name is a token: not empty, no separator, no control byte (so no line end inside it)
  isValue kv.2 = true          -- the value holds no control byte but HTAB (no NUL, no bare LF)

theorem headers_line {fuel : Nat} {k v r4 : Bytes} {std : List (Nat × Bytes)} {cus : List (Bytes × Bytes)} (h : LineOK (k, v)) :
    headers (fuel + 1) (k ++ COLON :: SP :: (v ++ CR :: LF :: r4)) std cus =
      headers fuel r4 (stepH (std, cus) (k, v)).1 (stepH (std, cus) (k, v)).2 := by
  obtain ⟨hk, hv, hu1, hu2, hstart, hnm, hval⟩ := h
  dsimp only at hk hv hu1 hu2 hstart hnm hval
  obtain ⟨s1, s2, s3, s4⟩ := line_scan k v r4 hk hv
  rw [headers]
  simp only [(consume_crlf_line k _).mpr hstart, s1, s2, s3, s4, hu1, hu2, hnm, hval, Bool.and_self, Bool.not_true, Bool.false_eq_true, if_false, stepH]
  cases stdIndex k <;> rfl

theorem headers_shape : ∀ (hs : List (Bytes × Bytes)), (∀ kv ∈ hs, LineOK kv) →
    ∀ (fuel : Nat) (rest : Bytes) (std : List (Nat × Bytes)) (cus : List (Bytes × Bytes)), hs.length < fuel →
    headers fuel (encodeHeaders hs ++ [CR, LF] ++ rest) std cus =
      .ok ((hs.foldl stepH (std, cus)).1, (hs.foldl stepH (std, cus)).2, rest) := by
  intro hs
  induction hs with
  | nil =>
    intro _ fuel rest std cus hf
    cases fuel with
    | zero => simp at hf
    | succ f => simp [headers, encodeHeaders, consume]
  | cons kv hs ih =>
    intro hwf fuel rest std cus hf
    cases fuel with
    | zero => simp at hf
    | succ f =>
      rw [List.append_assoc, encodeHeaders_cons, headers_line (hwf kv (by simp)), ← List.append_assoc]
      exact ih (fun x hx => hwf x (by simp [hx])) f rest _ _ (by simp at hf; omega)

theorem headers_sound : ∀ {fuel : Nat} {bs : Bytes} {std : List (Nat × Bytes)} {cus : List (Bytes × Bytes)} {std' : List (Nat × Bytes)} {cus' : List (Bytes × Bytes)} {rest : Bytes},
    headers fuel bs std cus = .ok (std', cus', rest) →
    ∃ hs : List (Bytes × Bytes), bs = encodeHeaders hs ++ [CR, LF] ++ rest ∧ (∀ kv ∈ hs, LineOK kv) ∧ (std', cus') = hs.foldl stepH (std, cus) := by
  intro fuel bs std cus std' cus' rest
  fun_induction headers fuel bs std cus
  case case2 fuel bs std cus r hc =>
    intro h
    cases h
    exact ⟨[], by simpa [encodeHeaders] using consume_eq_some.mp hc, by simp, rfl⟩
  -- a line under a name of the table, or under another name: `hi` says which, and `stepH` follows it
  case case6 fuel bs std cus hc k r1 hk r2 hc1 v r3 hv hu r4 hc2 i hi ih | case7 fuel bs std cus hc k r1 hk r2 hc1 v r3 hv hu r4 hc2 hi ih =>
    intro h
    -- the conditions passed on the way to the next line give the line's bytes and `LineOK`
    obtain ⟨hbs, hkc, -⟩ := readWhile_eq hk
    obtain ⟨hr2, hvc, -⟩ := readWhile_eq hv
    obtain rfl : bs = k ++ COLON :: SP :: (v ++ CR :: LF :: r4) := by
      rw [hbs, consume_eq_some.mp hc1, hr2, consume_eq_some.mp hc2]; simp
    simp only [Bool.not_eq_true, Bool.not_eq_false', Bool.and_eq_true] at hu
    have hline : LineOK (k, v) := ⟨fun b hb => by simpa using hkc b hb, fun b hb => by simpa using hvc b hb, hu.1.2, hu.2,
      (consume_crlf_line k _).mp hc, hu.1.1.1, hu.1.1.2⟩
    obtain ⟨hs, rfl, hl, hf⟩ := ih h
    exact ⟨(k, v) :: hs, by rw [List.append_assoc, List.append_assoc, encodeHeaders_cons], List.forall_mem_cons.mpr ⟨hline, hl⟩,
      by simpa [stepH, hi] using hf⟩
  all_goals exact fun h => nomatch h

/-- what the header block announces about a body: a refusal, no body, or its length `n` (then `0 < n < PAYLOAD_LIMIT`);
    decided before anything is loaded, from the Content-Length value alone -/
def announced (std : List (Nat × Bytes)) : Except Nat (Option Nat) :=
  match std.find? (·.1 = Gen.contentLengthIndex) with
  | none => .ok none
  | some (_, v) =>
    if v.isEmpty || !v.all isDigit then .error 400 else
    let len := if decimal v > USIZE_MAX then USIZE_MAX else decimal v
    if len = 0 then .ok none else if len ≥ PAYLOAD_LIMIT then .error 413 else .ok (some len)

/-- `read_payload` as a function of the stream after the head: what is left of the first read, then what comes later -/
def body (method : String) (np : Bytes) (q : Option Bytes) (std : List (Nat × Bytes)) (cus : List (Bytes × Bytes)) (stream : Bytes) : Outcome Parsed :=
  match announced std with
  | .error s => .reject s
  | .ok none => .ok ⟨method, np, q, std, cus, none⟩
  | .ok (some n) => if n ≤ stream.length then .ok ⟨method, np, q, std, cus, some (stream.take n)⟩ else .close

/-- how the payload relates to the announced length and to the bytes after the head (`remaining` of the first read, then `more`) -/
def PayloadOK (std : List (Nat × Bytes)) (remaining more : Bytes) (payload : Option Bytes) : Prop :=
  match std.find? (·.1 = Gen.contentLengthIndex) with
  | none => payload = none
  | some (_, v) =>
    v.isEmpty = false ∧ v.all isDigit = true ∧ decimal v < PAYLOAD_LIMIT ∧
    (decimal v = 0 → payload = none) ∧
    (decimal v ≠ 0 → payload = some ((remaining ++ more).take (decimal v)) ∧ decimal v ≤ (remaining ++ more).length)

/-- the three places `read_payload` may find the `len` bytes of a body in are one: the front of `remaining ++ more` -/
theorem take_front {α : Type} (k : Bytes → α) (c : α) (remaining more : Bytes) (len : Nat) :
    (if remaining.length = 0 then (if more.length ≥ len then k (more.take len) else c)
      else if len ≤ remaining.length then k (remaining.take len)
      else if more.length ≥ len - remaining.length then k (remaining ++ more.take (len - remaining.length)) else c) =
    if len ≤ (remaining ++ more).length then k ((remaining ++ more).take len) else c := by
  rw [List.length_append, List.take_append]
  by_cases h0 : remaining.length = 0
  · simp [List.eq_nil_of_length_eq_zero h0]
  · by_cases hle : len ≤ remaining.length
    · have : len - remaining.length = 0 := by omega
      simp [h0, hle, this, Nat.le_add_right_of_le hle]
    · have hiff : (len ≤ remaining.length + more.length) ↔ (len - remaining.length ≤ more.length) := by omega
      simp [h0, hle, hiff, List.take_of_length_le (Nat.le_of_lt (Nat.lt_of_not_le hle))]

section
variable {method : String} {np : Bytes} {q : Option Bytes}

theorem finish_eq (r6 more : Bytes) :
    finish method np q r6 more = (match headers (r6.length + 1) r6 [] [] with
      | .ok (std, cus, remaining) => body method np q std cus (remaining ++ more)
      | .reject s => .reject s
      | .close => .close
      | .panic s => .panic s) := by
  -- the two sides branch alike down to where the body is fetched; there they differ as the two sides of `take_front`
  unfold finish body announced
  cases headers (r6.length + 1) r6 [] [] with
  | reject s => rfl
  | close => rfl
  | panic s => rfl
  | ok t =>
    obtain ⟨std, cus, remaining⟩ := t
    dsimp only
    cases std.find? (·.1 = Gen.contentLengthIndex) with
    | none => rfl
    | some kv =>
      dsimp only
      generalize (if decimal kv.2 > USIZE_MAX then USIZE_MAX else decimal kv.2) = len
      cases (kv.2.isEmpty || !kv.2.all isDigit) with
      | true => rfl
      | false =>
        simp only [Bool.false_eq_true, if_false]
        by_cases h0 : len = 0
        · simp only [h0, if_true]
        · by_cases hlim : len ≥ PAYLOAD_LIMIT
          · simp only [h0, hlim, if_true, if_false]
          · simp only [h0, hlim, if_false]
            exact take_front (fun b => Outcome.ok (Parsed.mk method np q std cus (some b))) Outcome.close remaining more len

theorem body_more (std : List (Nat × Bytes)) (cus : List (Bytes × Bytes)) (a b : Bytes) :
    (∀ p, body method np q std cus a = .ok p → body method np q std cus (a ++ b) = .ok p) ∧
    (∀ s, body method np q std cus a = .reject s → body method np q std cus (a ++ b) = .reject s) := by
  unfold body
  split
  · exact ⟨fun _ h => h, fun _ h => h⟩
  · exact ⟨fun _ h => h, fun _ h => h⟩
  · rename_i n _
    by_cases hn : n ≤ a.length
    · have hn' : n ≤ (a ++ b).length := by simp only [List.length_append]; omega
      simp only [hn, hn', if_true, List.take_append_of_le_length hn]
      exact ⟨fun _ h => h, fun _ h => h⟩
    · simp only [hn, if_false]
      exact ⟨fun _ h => (nomatch h), fun _ h => (nomatch h)⟩

/-- `h` says, for each answer of `announced`, what `body` then hands on as payload -/
theorem payloadOK_of_announced {std : List (Nat × Bytes)} {rem more : Bytes} {pl : Option Bytes}
    (h : match announced std with
      | .error _ => False
      | .ok none => pl = none
      | .ok (some n) => n ≤ (rem ++ more).length ∧ pl = some ((rem ++ more).take n)) : PayloadOK std rem more pl := by
  unfold announced at h
  unfold PayloadOK
  revert h
  cases std.find? (·.1 = Gen.contentLengthIndex) with
  | none => exact id
  | some kv =>
    intro h
    dsimp only at h ⊢
    cases hbad : (kv.2.isEmpty || !kv.2.all isDigit) with
    | true => simp only [hbad, if_true] at h
    | false =>
      simp only [hbad, Bool.false_eq_true, if_false] at h
      simp only [Bool.or_eq_false_iff, Bool.not_eq_false'] at hbad
      have hmax : PAYLOAD_LIMIT ≤ USIZE_MAX := by decide
      -- a length clamped to `usize::MAX` is over the limit, so `len` is `decimal v` wherever the request is accepted
      by_cases hbig : decimal kv.2 > USIZE_MAX
      · have h1 : ¬ USIZE_MAX = 0 := by decide
        simp only [hbig, if_true, h1, if_false, ge_iff_le, hmax] at h
      · simp only [hbig, if_false] at h
        by_cases h0 : decimal kv.2 = 0
        · simp only [h0, if_true] at h
          exact ⟨hbad.1, hbad.2, by rw [h0]; decide, fun _ => h, fun hne => absurd h0 hne⟩
        · by_cases hlim : decimal kv.2 ≥ PAYLOAD_LIMIT
          · simp only [h0, hlim, if_true, if_false] at h
          · simp only [h0, hlim, if_false] at h
            exact ⟨hbad.1, hbad.2, by omega, fun hz => absurd hz h0, fun _ => ⟨h.2, h.1⟩⟩

theorem body_ok {std : List (Nat × Bytes)} {cus : List (Bytes × Bytes)} {rem more : Bytes} {p : Parsed}
    (h : body method np q std cus (rem ++ more) = .ok p) :
    p.method = method ∧ p.path = np ∧ p.query = q ∧ p.std = std ∧ p.custom = cus ∧ PayloadOK std rem more p.payload := by
  revert h
  -- `body` hands on a request where nothing is announced, and where the announced `n` bytes are there
  fun_cases body method np q std cus (rem ++ more)
  case case2 ha =>
    rintro ⟨⟩
    exact ⟨rfl, rfl, rfl, rfl, rfl, payloadOK_of_announced (by rw [ha])⟩
  case case3 n ha hn =>
    rintro ⟨⟩
    exact ⟨rfl, rfl, rfl, rfl, rfl, payloadOK_of_announced (by rw [ha]; exact ⟨hn, rfl⟩)⟩
  all_goals exact fun h => nomatch h

theorem finish_sound {r6 more : Bytes} {p : Parsed} (h : finish method np q r6 more = .ok p) :
    ∃ (hs : List (Bytes × Bytes)) (remaining : Bytes), r6 = encodeHeaders hs ++ [CR, LF] ++ remaining ∧ (∀ kv ∈ hs, LineOK kv) ∧
      p.method = method ∧ p.path = np ∧ p.query = q ∧ (p.std, p.custom) = foldHeaders hs ∧ PayloadOK p.std remaining more p.payload := by
  rw [finish_eq] at h
  split at h
  · rename_i std cus remaining hh
    obtain ⟨hs, hb, hl, hf⟩ := headers_sound hh
    obtain ⟨e1, e2, e3, e4, e5, e6⟩ := body_ok h
    exact ⟨hs, remaining, hb, hl, e1, e2, e3, by rw [e4, e5]; exact hf, by rw [e4]; exact e6⟩
  · cases h
  · cases h
  · cases h

theorem finish_more (r6 a b : Bytes) :
    (∀ p, finish method np q r6 a = .ok p → finish method np q r6 (a ++ b) = .ok p) ∧
    (∀ s, finish method np q r6 a = .reject s → finish method np q r6 (a ++ b) = .reject s) := by
  rw [finish_eq, finish_eq]
  split
  · rw [← List.append_assoc]; exact body_more ..
  · exact ⟨fun _ h => h, fun _ h => h⟩
  · exact ⟨fun _ h => h, fun _ h => h⟩
  · exact ⟨fun _ h => h, fun _ h => h⟩

theorem finish_shape (hs : List (Bytes × Bytes)) (hl : ∀ kv ∈ hs, LineOK kv) (rem more : Bytes) :
    finish method np q (encodeHeaders hs ++ [CR, LF] ++ rem) more = body method np q (foldHeaders hs).1 (foldHeaders hs).2 (rem ++ more) := by
  have hlen := encodeHeaders_length hs
  rw [finish_eq, headers_shape hs hl _ rem [] [] (by simp only [List.length_append]; omega)]
  rfl

theorem finish_split (hs : List (Bytes × Bytes)) (hl : ∀ kv ∈ hs, LineOK kv) (rem x y : Bytes) :
    finish method np q (encodeHeaders hs ++ [CR, LF] ++ (rem ++ x)) y = finish method np q (encodeHeaders hs ++ [CR, LF] ++ rem) (x ++ y) := by
  rw [finish_shape hs hl, finish_shape hs hl, List.append_assoc]

end

def queryBytes : Option Bytes → Bytes
  | some q => QM :: q
  | none => []

/-- the request line of `Request::read`: the method, the normalised path, the query and what follows `HTTP/1.1 CRLF`;
    `error none` = the connection is closed (unknown method), `error (some s)` = refused with status `s`.  The steps of `parse` before `finish`,
    with `consume_oneof([" ", "?"])` written as the branches it has, so that every way through is one branch of the definition. -/
def requestLine (first : Bytes) : Except (Option Nat) (String × Bytes × Option Bytes × Bytes) :=
  let (m, r0) := readWhile (· != SP) first
  match methodOf m with
  | none => .error none
  | some method =>
    match r0 with
    | [] => .error (some 400)
    | b :: r1 =>
      if b != SP then .error (some 400) else
      let (path, r2) := readWhile (fun b => b != SP && b != QM) r1
      if path.head? != some SLASH then .error (some 501) else
      if !validUtf8 path then .error (some 400) else
      let npath := if path.getLast? == some SLASH then path.dropLast else path
      match r2 with
      | [] => .error (some 400)
      | c :: r3 =>
        if c == SP then
          match consume HTTP11 r3 with
          | none => .error (some 505)
          | some r6 => .ok (method, npath, none, r6)
        else if c == QM then
          let (q, r4) := readWhile (· != SP) r3
          match consume HTTP11 (r4.drop 1) with
          | none => .error (some 505)
          | some r6 => .ok (method, npath, some q, r6)
        else .error (some 400)

theorem parse_eq (first more : Bytes) :
    parse first more = match requestLine first with
      | .ok (method, np, q, r6) => finish method np q r6 more
      | .error none => .close
      | .error (some s) => .reject s := by
  fun_cases requestLine first
  all_goals simp only [parse, *, if_true, Bool.false_eq_true, if_false]
  all_goals rfl

/-- `first` is `m SP path [? query] SP HTTP/1.1 CRLF r6`: `m` spells `method`, `path` is an origin-form UTF-8 path and `np` is that path
    with one trailing `/` stripped -/
def RequestLine (first : Bytes) (method : String) (np : Bytes) (query : Option Bytes) (r6 : Bytes) : Prop :=
  ∃ m path, first = m ++ SP :: (path ++ queryBytes query ++ SP :: (HTTP11 ++ r6)) ∧ methodOf m = some method ∧ (∀ b ∈ m, b ≠ SP) ∧
    path.head? = some SLASH ∧ (∀ b ∈ path, b ≠ SP ∧ b ≠ QM) ∧ validUtf8 path = true ∧
    np = (if path.getLast? == some SLASH then path.dropLast else path) ∧ (∀ q, query = some q → ∀ b ∈ q, b ≠ SP)

theorem requestLine_shape {first : Bytes} {method : String} {np : Bytes} {query : Option Bytes} {r6 : Bytes}
    (h : RequestLine first method np query r6) : requestLine first = .ok (method, np, query, r6) := by
  obtain ⟨m, path, rfl, hm, hmsp, hsl, hpc, hu, rfl, hq⟩ := h
  unfold requestLine
  rw [readWhile_append (· != SP) m SP _ (by intro b hb; simpa using hmsp b hb) (by simp)]
  simp only [hm]
  have hsp : (SP != SP) = false := by decide
  simp only [hsp, Bool.false_eq_true, if_false]
  have hver : consume HTTP11 (HTTP11 ++ r6) = some r6 := consume_eq_some.mpr rfl
  have hpathp : ∀ b ∈ path, (b != SP && b != QM) = true := by
    intro b hb; have := hpc b hb; simp [this.1, this.2]
  cases query with
  | none =>
    simp only [queryBytes, List.append_nil]
    rw [readWhile_append (fun b => b != SP && b != QM) path SP _ hpathp (by decide)]
    simp only [hsl, bne_self_eq_false, Bool.false_eq_true, if_false, hu, Bool.not_true, beq_self_eq_true, if_true, hver]
  | some q =>
    have hqs : (QM == SP) = false := by decide
    simp only [queryBytes, List.append_assoc, List.cons_append]
    rw [readWhile_append (fun b => b != SP && b != QM) path QM _ hpathp (by decide)]
    simp only [hsl, bne_self_eq_false, Bool.false_eq_true, if_false, hu, Bool.not_true, hqs, beq_self_eq_true, if_true]
    rw [readWhile_append (· != SP) q SP _ (by intro b hb; simpa using hq q rfl b hb) (by simp)]
    simp only [List.drop_succ_cons, List.drop_zero, hver]

theorem requestLine_sound {first : Bytes} {method : String} {np : Bytes} {query : Option Bytes} {r6 : Bytes}
    (h : requestLine first = .ok (method, np, query, r6)) : RequestLine first method np query r6 := by
  revert h
  fun_cases requestLine first
  -- the two accepting branches (a target without a query, then one with); the hypotheses are the conditions passed on the way
  case case8 m method' hmo b r1 hb path hsl hu npath c r3 hc r6' hver hm hp =>
    intro h
    obtain ⟨rfl, rfl, rfl, rfl⟩ : method' = method ∧ npath = np ∧ none = query ∧ r6' = r6 := by simpa using h
    obtain ⟨rfl, hmsp, -⟩ := readWhile_eq hm
    obtain ⟨rfl, hpc, -⟩ := readWhile_eq hp
    obtain rfl : b = SP := by simpa using hb
    obtain rfl : c = SP := by simpa using hc
    obtain rfl : r3 = HTTP11 ++ r6' := consume_eq_some.mp hver
    exact ⟨m, path, by simp [queryBytes], hmo, fun b hb => by simpa using hmsp b hb, by simpa using hsl, fun b hb => by simpa using hpc b hb,
      by simpa using hu, rfl, fun q hq => nomatch hq⟩
  case case10 m method' hmo b r1 hb path hsl hu npath c r3 hcs hc q r4 hq r6' hver hm hp =>
    intro h
    obtain ⟨rfl, rfl, rfl, rfl⟩ : method' = method ∧ npath = np ∧ some q = query ∧ r6' = r6 := by simpa using h
    obtain ⟨rfl, hmsp, -⟩ := readWhile_eq hm
    obtain ⟨rfl, hpc, -⟩ := readWhile_eq hp
    obtain ⟨rfl, hqc, hr4⟩ := readWhile_eq hq
    obtain rfl : b = SP := by simpa using hb
    obtain rfl : c = QM := by simpa using hc
    -- `r4` starts with the space that ended the query: an empty `r4` cannot go on with HTTP/1.1
    rcases hr4 with rfl | ⟨d, r5, rfl, hd⟩
    · simp [consume, HTTP11] at hver
    · obtain rfl : d = SP := by simpa using hd
      obtain rfl : r5 = HTTP11 ++ r6' := consume_eq_some.mp hver
      exact ⟨m, path, by simp [queryBytes], hmo, fun b hb => by simpa using hmsp b hb, by simpa using hsl, fun b hb => by simpa using hpc b hb,
        by simpa using hu, rfl, fun q' hq' b hb => by cases hq'; simpa using hqc b hb⟩
  all_goals exact fun h => nomatch h

theorem parse_shape {first : Bytes} {method : String} {np : Bytes} {query : Option Bytes} {r6 : Bytes}
    (h : RequestLine first method np query r6) (more : Bytes) : parse first more = finish method np query r6 more := by
  rw [parse_eq, requestLine_shape h]

/-- an accepted first read starts with a request line, and `finish` (header loop and body) accepted what follows -/
theorem parse_ok_stages {first more : Bytes} {p : Parsed} (h : parse first more = .ok p) :
    ∃ method np q r6, RequestLine first method np q r6 ∧ finish method np q r6 more = .ok p := by
  rw [parse_eq] at h
  split at h
  · rename_i method np q r6 hr
    exact ⟨method, np, q, r6, requestLine_sound hr, h⟩
  · cases h
  · cases h

theorem parse_more (first a b : Bytes) :
    (∀ p, parse first a = .ok p → parse first (a ++ b) = .ok p) ∧ (∀ s, parse first a = .reject s → parse first (a ++ b) = .reject s) := by
  rw [parse_eq, parse_eq]
  split
  · exact finish_more ..
  · exact ⟨fun _ h => h, fun _ h => h⟩
  · exact ⟨fun _ h => h, fun _ h => h⟩

/-- C06: the parsed request does not depend on where the first read ends, once the head is complete in it -/
theorem parse_split (f x y : Bytes) (p : Parsed) (h : parse f (x ++ y) = .ok p) : parse (f ++ x) y = .ok p := by
  obtain ⟨method, np, q, r6, ⟨m, path, rfl, hrest⟩, hfin⟩ := parse_ok_stages h
  obtain ⟨hs, rem, rfl, hl, -⟩ := finish_sound hfin
  have hx : RequestLine (m ++ SP :: (path ++ queryBytes q ++ SP :: (HTTP11 ++ (encodeHeaders hs ++ [CR, LF] ++ rem))) ++ x) method np q
      (encodeHeaders hs ++ [CR, LF] ++ (rem ++ x)) := ⟨m, path, by simp, hrest⟩
  rw [parse_shape hx, finish_split hs hl]
  exact hfin

end Ohkami.Http
