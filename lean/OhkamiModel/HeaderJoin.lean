import OhkamiModel.HttpStages
/-! C02, "header values (repeated headers joined in order)", "names compare case-insensitively": what a handler finds under a name
    after the header loop is the `", "`-join, in wire order, of the values of exactly the lines whose names equal it up to letter case. -/
namespace Ohkami.Http

def joined (old : Option Bytes) (v : Bytes) : Bytes := match old with | some o => o ++ joinSep ++ v | none => v

/-- `v1`, then `", " v2`, … after whatever was there -/
def joinOnto (old : Option Bytes) (vs : List Bytes) : Option Bytes := vs.foldl (fun acc v => some (joined acc v)) old

/-- the values, in wire order, of the lines whose name is `n` up to letter case -/
def valuesOf (hs : List (Bytes × Bytes)) (n : Bytes) : List Bytes := (hs.filter (sameName ·.1 n)).map (·.2)

/-- the values, in wire order, of the lines whose name is the `i`-th name of the table, in any letter case -/
def stdValuesOf (hs : List (Bytes × Bytes)) (i : Nat) : List Bytes := (hs.filter (stdIndex ·.1 == some i)).map (·.2)

/-- the first value under a key equivalent to `n`: what `Headers::get` finds in either map -/
def lookBy {κ : Type} (same : κ → κ → Bool) (l : List (κ × Bytes)) (n : κ) : Option Bytes := (l.find? (same ·.1 n)).map (·.2)

theorem lookBy_cons {κ : Type} (same : κ → κ → Bool) (a : κ) (b : Bytes) (l : List (κ × Bytes)) (n : κ) :
    lookBy same ((a, b) :: l) n = if same a n then some b else lookBy same l n := by
  simp only [lookBy, List.find?_cons]
  cases same a n <;> rfl

/-- looking up after an append, for any map kept as the two header maps are: `ups` joins onto the first entry whose key is equivalent to `k`
    and otherwise adds `(k, v)` at the end (`hnil`, `hcons`), the key test respecting equivalent keys on either side (`congl`, `congr`) -/
theorem lookBy_ups {κ : Type} {same : κ → κ → Bool}
    (congl : ∀ {a b}, same a b = true → ∀ c, same a c = same b c) (congr : ∀ {a b}, same a b = true → ∀ c, same c a = same c b)
    (ups : List (κ × Bytes) → κ → Bytes → List (κ × Bytes)) (hnil : ∀ k v, ups [] k v = [(k, v)])
    (hcons : ∀ a b l k v, ups ((a, b) :: l) k v = if same a k then (a, b ++ joinSep ++ v) :: l else (a, b) :: ups l k v)
    (l : List (κ × Bytes)) (k : κ) (v : Bytes) (n : κ) :
    lookBy same (ups l k v) n = if same k n then some (joined (lookBy same l n) v) else lookBy same l n := by
  induction l with
  | nil =>
    rw [hnil, lookBy_cons]
    cases same k n <;> rfl
  | cons ab l ih =>
    obtain ⟨a, b⟩ := ab
    rw [hcons, lookBy_cons]
    cases hak : same a k with
    | true =>
      rw [if_pos rfl, lookBy_cons, congl hak n]
      cases same k n <;> rfl
    | false =>
      rw [if_neg Bool.false_ne_true, lookBy_cons, ih]
      cases hkn : same k n with
      | false => rfl
      | true =>
        rw [← congr hkn a, hak]
        rfl

theorem joinOnto_foldl {σ α : Type} (look : σ → Option Bytes) (step : σ → α → σ) (hit : α → Bool) (val : α → Bytes)
    (hstep : ∀ s x, look (step s x) = if hit x then some (joined (look s) (val x)) else look s) (xs : List α) :
    ∀ s, look (xs.foldl step s) = joinOnto (look s) ((xs.filter hit).map val) := by
  induction xs with
  | nil =>
    intro s
    rfl
  | cons x xs ih =>
    intro s
    rw [List.foldl_cons, ih, hstep, List.filter_cons]
    cases hit x <;> rfl

theorem appendCustom_cons (a b : Bytes) (l : List (Bytes × Bytes)) (k v : Bytes) :
    appendCustom ((a, b) :: l) k v = if sameName a k then (a, b ++ joinSep ++ v) :: l else (a, b) :: appendCustom l k v := by
  unfold appendCustom
  rw [List.findIdx?_cons]
  cases sameName a k with
  | true => rfl
  | false => cases l.findIdx? (fun x => sameName x.1 k) <;> rfl

theorem appendStd_cons (a : Nat) (b : Bytes) (l : List (Nat × Bytes)) (k : Nat) (v : Bytes) :
    appendStd ((a, b) :: l) k v = if decide (a = k) then (a, b ++ joinSep ++ v) :: l else (a, b) :: appendStd l k v := by
  unfold appendStd
  rw [List.findIdx?_cons]
  cases h : decide (a = k) with
  | true =>
    rw [of_decide_eq_true h]
    rfl
  | false => cases l.findIdx? (fun x => decide (x.1 = k)) <;> rfl

theorem sameName_eq {a b : Bytes} (h : sameName a b = true) : a.map lower = b.map lower := eq_of_beq h

theorem stdIndex_congr {k n : Bytes} (h : sameName k n = true) : stdIndex k = stdIndex n :=
  congrArg Gen.reqHeaderLower.idxOf? (sameName_eq h)

theorem look_stepH (n : Bytes) (hn : stdIndex n = none) (s : List (Nat × Bytes) × List (Bytes × Bytes)) (x : Bytes × Bytes) :
    lookBy sameName (stepH s x).2 n = if sameName x.1 n then some (joined (lookBy sameName s.2 n) x.2) else lookBy sameName s.2 n := by
  unfold stepH
  cases hk : stdIndex x.1 with
  | none =>
    exact lookBy_ups (fun h c => congrArg (· == c.map lower) (sameName_eq h)) (fun h c => congrArg (c.map lower == ·) (sameName_eq h))
      appendCustom (fun _ _ => rfl) appendCustom_cons s.2 x.1 x.2 n
  | some i =>
    cases hxn : sameName x.1 n with
    | false => rfl
    | true =>
      rw [stdIndex_congr hxn, hn] at hk
      cases hk

theorem lookStd_stepH (i : Nat) (s : List (Nat × Bytes) × List (Bytes × Bytes)) (x : Bytes × Bytes) :
    lookBy (fun a b => decide (a = b)) (stepH s x).1 i =
      if stdIndex x.1 == some i then some (joined (lookBy (fun a b => decide (a = b)) s.1 i) x.2) else lookBy (fun a b => decide (a = b)) s.1 i := by
  unfold stepH
  cases hk : stdIndex x.1 with
  | none => rfl
  | some j =>
    simp only
    rw [lookBy_ups (fun h c => by rw [of_decide_eq_true h]) (fun h c => by rw [of_decide_eq_true h]) appendStd (fun _ _ => rfl) appendStd_cons]
    simp only [Option.some_beq_some, beq_iff_eq, decide_eq_true_eq]

end Ohkami.Http
