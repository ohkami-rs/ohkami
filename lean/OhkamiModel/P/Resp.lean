import OhkamiModel.Basic
/-! Prototype of the C03 model: IndexMap, response Headers with size accounting. -/
namespace Ohkami

structure IndexMap where
  index  : List (Option Nat)            -- slot table (length N); none = NULL
  values : List (Nat × Bytes)           -- append-only
deriving Repr

namespace IndexMap
def new (n : Nat) : IndexMap := ⟨List.replicate n none, []⟩
def slot (m : IndexMap) (k : Nat) : Option Nat := (m.index[k]?).join
def get (m : IndexMap) (k : Nat) : Option Bytes :=
  match m.slot k with
  | none => none
  | some p => (m.values[p]?).map (·.2)
def set (m : IndexMap) (k : Nat) (v : Bytes) : IndexMap :=
  ⟨m.index.set k (some m.values.length), m.values ++ [(k, v)]⟩
def delete (m : IndexMap) (k : Nat) : IndexMap := ⟨m.index.set k none, m.values⟩
-- overwrite in place (`*old = value` through get_mut)
def update (m : IndexMap) (k : Nat) (v : Bytes) : IndexMap :=
  match m.slot k with
  | none => m
  | some p => ⟨m.index, m.values.set p (k, v)⟩
-- `iter` as the code had it before fix 281a135: entry is yielded iff its key's slot is not NULL
def iterCode (m : IndexMap) : List (Nat × Bytes) :=
  m.values.filter fun kv => (m.slot kv.1).isSome
-- `iter` as the code has it: iff its key's slot points at this very position
def iterFixed (m : IndexMap) : List (Nat × Bytes) :=
  (m.values.zipIdx).filterMap fun (kv, p) => if m.slot kv.1 = some p then some kv else none
end IndexMap

structure Headers where
  std    : IndexMap
  custom : List (Bytes × Bytes)          -- TupleMap (insert replaces, remove = swap_remove)
  cookies : List Bytes
  size   : Nat
deriving Repr

inductive HOp where
  | insert (k : Nat) (v : Bytes)
  | remove (k : Nat)
  | append (k : Nat) (v : Bytes)
  | insertX (name v : Bytes)
  | removeX (name : Bytes)
  | appendX (name v : Bytes)
  | cookie (line : Bytes)
deriving Repr

def crlfLen : Nat := 2
def sepLen : Nat := 2
def joinSep : Bytes := [44, 32]    -- ", "

def swapRemove {α} (l : List α) (i : Nat) : List α :=
  match l[i]?, l.getLast? with
  | some _, some last => if i + 1 = l.length then l.dropLast else (l.set i last).dropLast
  | _, _ => l

def Headers.apply (nameLen : Nat → Nat) (h : Headers) : HOp → Headers
  | .insert k v =>
    match h.std.get k with
    | none => { h with std := h.std.set k v, size := h.size + (nameLen k + sepLen + v.length + crlfLen) }
    | some old => { h with std := h.std.update k v, size := h.size - old.length + v.length }
  | .remove k =>
    match h.std.get k with
    | none => { h with std := h.std.delete k }
    | some old => { h with std := h.std.delete k, size := h.size - (nameLen k + sepLen + old.length + crlfLen) }
  | .append k v =>
    match h.std.get k with
    | none => { h with std := h.std.set k v, size := h.size + (nameLen k + sepLen + v.length + crlfLen) }
    | some old => { h with std := h.std.update k (old ++ joinSep ++ v), size := h.size + (2 + v.length) }
  | .insertX n v =>
    match h.custom.findIdx? (·.1 = n) with
    | none => { h with custom := h.custom ++ [(n, v)], size := h.size + (n.length + sepLen + v.length + crlfLen) }
    | some i => { h with custom := h.custom.set i (n, v), size := h.size - ((h.custom[i]?).map (·.2.length)).getD 0 + v.length }
  | .removeX n =>
    match h.custom.findIdx? (·.1 = n) with
    | none => h
    | some i => { h with custom := swapRemove h.custom i,
                         size := h.size - (n.length + sepLen + ((h.custom[i]?).map (·.2.length)).getD 0 + crlfLen) }
  | .appendX n v =>
    match h.custom.findIdx? (·.1 = n) with
    | none => { h with custom := h.custom ++ [(n, v)], size := h.size + (n.length + sepLen + v.length + crlfLen) }
    | some i => { h with custom := h.custom.set i (n, ((h.custom[i]?).map (·.2)).getD [] ++ joinSep ++ v), size := h.size + (2 + v.length) }
  | .cookie line => { h with cookies := h.cookies ++ [line], size := h.size + (12 + line.length + crlfLen) }

-- bytes that `write_unchecked_to` emits, as a length, for a given `iter`
def Headers.renderedLen (nameLen : Nat → Nat) (iter : IndexMap → List (Nat × Bytes)) (h : Headers) : Nat :=
  ((iter h.std).map fun kv => nameLen kv.1 + sepLen + kv.2.length + crlfLen).sum
  + (h.custom.map fun nv => nv.1.length + sepLen + nv.2.length + crlfLen).sum
  + (h.cookies.map fun c => 12 + c.length + crlfLen).sum
  + crlfLen

def Headers.empty (n : Nat) : Headers := ⟨IndexMap.new n, [], [], crlfLen⟩

/-- C03 core: the reserved size is exactly what is written, for every operation history; the unrepaired iteration breaks it: witness -/
example : let h := [HOp.insert 1 [97], .remove 1, .insert 1 [98, 98]].foldl (Headers.apply fun _ => 6) (Headers.empty 2)
    h.renderedLen (fun _ => 6) IndexMap.iterCode = 25 ∧ h.size = 14 := by decide

end Ohkami
