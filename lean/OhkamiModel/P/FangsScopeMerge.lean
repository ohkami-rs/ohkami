import OhkamiModel.P.FangsScope
/-! C04, scope: registration and mounting keep the scope invariants.  Registering a handler leaves a fang-less trie fang-less
    and a free prefix free.  Mounting at a free prefix walks down the prefix: at each node the one child on the prefix — an
    existing one, or the fresh empty one `updKids` appends — is replaced by the result below, and no other child can match a
    segment that the prefix segment matches; at the end of the prefix the mounted trie is merged into an empty node
    (`mount_mergeAt`). -/
namespace Ohkami.Fangs
open Ohkami

theorem compat_symm (a b : Seg) : compat a b = compat b a := by
  cases a <;> cases b <;> simp [compat, Bool.beq_comm]

theorem overlap_symm (a b : Option Seg) : overlap a b = overlap b a := by
  cases a <;> cases b <;> simp [overlap, compat_symm]

theorem addFang_fresh (l : List Nat) (x : Nat) (h : x ∉ l) : addFang l x = l ++ [x] := by
  simp [addFang, h]

theorem appendFangs_fresh : ∀ (m l : List Nat), (l ++ m).Nodup → appendFangs l m = l ++ m
  | [], l, _ => by simp [appendFangs]
  | x :: m, l, h => by
    have hx : x ∉ l := fun hx => (List.nodup_append.mp h).2.2 x hx x (by simp) rfl
    have ih := appendFangs_fresh m (l ++ [x]) (by simpa using h)
    simpa [appendFangs, addFang_fresh l x hx] using ih

theorem mergeKids_fresh : ∀ (cs ks : List BN), KidsOK cs → (pats (ks ++ cs)).Nodup → mergeKids ks cs = some (ks ++ cs)
  | [], ks, _, _ => by simp [mergeKids]
  | c :: cs, ks, hok, hn => by
    obtain ⟨hcp, _, hcs⟩ := hok
    obtain ⟨s, hs⟩ := Option.isSome_iff_exists.mp hcp
    -- the pattern of `c` is none of `ks`: `c` is appended
    have hno : ¬ hasMatch ks s = true := by
      rw [hasMatch_iff]
      intro hmem
      simp only [pats, List.map_append, List.map_cons, hs] at hn
      exact (List.nodup_append.mp hn).2.2 (some s) hmem (some s) (by simp) rfl
    have ih := mergeKids_fresh cs (ks ++ [c]) hcs (by simpa using hn)
    simpa [mergeKids, hs, hno] using ih

theorem mergeParts_empty (p : Option Seg) (sub : BN) (hok : TreeOK sub) (hnd : (pats sub.kids).Nodup) (hf : sub.fangs.Nodup) :
    mergeParts (.mk p [] none []) sub = some (.mk p sub.fangs sub.handler sub.kids) := by
  obtain ⟨p', f', h', ks'⟩ := sub
  simp only [mergeParts, BN.fangs, BN.handler, BN.kids] at *
  rw [mergeKids_fresh ks' [] hok (by simpa using hnd), appendFangs_fresh f' [] (by simpa using hf)]
  cases h' <;> simp

theorem mergeParts_leaf (p : Option Seg) (f : List Nat) (hh : Option Nat) (ks : List BN) (h' : Option Nat) (t' : BN)
    (h : mergeParts (.mk p f hh ks) (.mk none [] h' []) = some t') : ∃ h2, t' = .mk p f h2 ks := by
  simp only [mergeParts] at h
  split at h
  · cases h
  · simp only [mergeKids, Option.map_some, Option.some.injEq, appendFangs, List.foldl_nil] at h
    exact ⟨_, h.symm⟩

theorem free_empty (p : Option Seg) : ∀ r : Route, Free r (.mk p [] none [])
  | [] => ⟨rfl, rfl, rfl⟩
  | _ :: _ => ⟨rfl, trivial⟩

theorem flat_mergeAt_leaf : ∀ (q : Route) (t t' : BN) (h' : Option Nat), Flat [] t →
    mergeAt q t (.mk none [] h' []) = some t' → Flat [] t'
  | [], .mk p f hh ks, t', h', hf, h => by
    simp only [mergeAt] at h
    obtain ⟨h2, rfl⟩ := mergeParts_leaf p f hh ks h' t' h
    exact hf
  | b :: q', .mk p f hh ks, t', h', hf, h => by
    simp only [mergeAt, Option.map_eq_some_iff] at h
    obtain ⟨ks', hk, rfl⟩ := h
    rw [Flat, flatKids_iff_forall] at hf ⊢
    exact ⟨hf.1, updKids_forall _ b ks ks' hk hf.2 ⟨rfl, trivial⟩ fun k k' _ hfk hg => flat_mergeAt_leaf q' k k' h' hfk hg⟩

theorem conflict_cons (a b : Seg) (r q : Route) (h : conflict (a :: r) (b :: q) = false) :
    (a = b → conflict r q = false) ∧ (a ≠ b → compat a b = false) := by
  simp only [conflict] at h
  constructor
  · rintro rfl
    simpa [(patMatches_iff a a).mpr rfl] using h
  · intro hab
    have : patMatches a b = false := by simpa [← patMatches_iff] using hab
    simpa [this] using h

/-- a free prefix stays free when something is merged at a route that does not conflict with it: a handler anywhere
    (it may sit on the way), a whole tree only where the prefix does not lead -/
theorem free_mergeAt : ∀ (r q : Route) (t sub t' : BN), Free r t → conflict r q = false →
    (conflict q r = false ∨ ∃ h', sub = .mk none [] h' []) → mergeAt q t sub = some t' → Free r t'
  | [], _, _, _, _, _, hc, _, _ => by simp [conflict] at hc
  | a :: r, [], .mk p f hh ks, sub, t', hfr, _, hsub, h => by
    rcases hsub with hc | ⟨h', rfl⟩
    · simp [conflict] at hc
    · simp only [mergeAt] at h
      obtain ⟨h2, rfl⟩ := mergeParts_leaf p f hh ks h' t' h
      exact hfr
  | a :: r, b :: q, .mk p f hh ks, sub, t', hfr, hc, hsub, h => by
    simp only [mergeAt, Option.map_eq_some_iff] at h
    obtain ⟨ks', hk, rfl⟩ := h
    obtain ⟨c1, c2⟩ := conflict_cons a b r q hc
    rw [Free, freeKids_iff_forall] at hfr ⊢
    refine ⟨hfr.1, updKids_forall _ b ks ks' hk hfr.2 ?_ ?_⟩
    · -- the fresh child of pattern `b`: on the prefix if `b = a`, else it must not overlap `a`
      by_cases hab : a = b
      · subst hab
        simpa [BN.pat] using free_empty (some a) r
      · have : ¬ (some b = some a) := fun e => hab (Option.some.inj e).symm
        simp only [BN.pat, this, if_false, overlap, compat_symm b a, c2 hab]
    · -- the child of pattern `b` that the merge descends into: on the prefix only if `b = a`
      intro k k' hp hfk hm
      rw [mergeAt_pat q k sub k' hm]
      by_cases hab : a = b
      · subst hab
        rw [if_pos hp] at hfk ⊢
        exact free_mergeAt r q k sub k' hfk (c1 rfl) (hsub.imp_left fun hc' => (conflict_cons a a q r hc').1 rfl) hm
      · have : ¬ k.pat = some a := fun e => hab (Option.some.inj (e.symm.trans hp))
        rw [if_neg this] at hfk ⊢
        exact hfk

theorem freeKids_sep (s : Seg) (rest : Route) (ks : List BN) (h : FreeKids s rest ks) (x : BN) (hx : x ∈ ks)
    (hne : x.pat ≠ some s) : overlap x.pat (some s) = false := by
  simpa [hne] using (freeKids_iff_forall s rest ks).mp h x hx

theorem nds_append (a b : List BN) : NDs (a ++ b) ↔ NDs a ∧ NDs b := by
  simp only [nds_iff, everyKids_append]

theorem pats_sep (pre post : List BN) (k : BN) (s : Seg) (hk : k.pat = some s) (hn : (pats (pre ++ k :: post)).Nodup) :
    ∀ x ∈ pre ++ post, x.pat ≠ some s := by
  simp only [pats, List.map_append, List.map_cons, hk] at hn
  have hne := (List.pairwise_cons.mp ((List.pairwise_middle (fun h => h.symm)).mp hn)).1
  intro x hx he
  exact hne (some s) (by rw [← List.map_append]; exact List.mem_map.mpr ⟨x, hx, he⟩) rfl

theorem noMatch_of_sep (l : List BN) (s : Seg) (s0 : Bytes) (hsep : ∀ x ∈ l, overlap x.pat (some s) = false)
    (hm : segMatch s s0 = true) : l.any (kidMatches · s0) = false := by
  rw [List.any_eq_false]
  intro x hx hxm
  have := overlap_of_match x.pat (some s) s0 hxm hm
  rw [hsep x hx] at this
  cases this

section
variable (p : Option Seg) (h : Option Nat) (pre post : List BN)

theorem good_erase (k : BN) (hg : Good (.mk p [] h (pre ++ k :: post))) : Good (.mk p [] h (pre ++ post)) := by
  obtain ⟨hn, hpw, hgk⟩ := hg
  rw [goodKids_append] at hgk
  exact ⟨hn, hpw.sublist (List.Sublist.append_left (List.sublist_cons_self k post) pre),
    (goodKids_append [] pre post).mpr ⟨hgk.1, hgk.2.2.2⟩⟩

theorem good_insert (k' : BN) (s : Seg) (hk' : k'.pat = some s) (hsep : ∀ x ∈ pre ++ post, overlap x.pat (some s) = false)
    (hg : Good (.mk p [] h (pre ++ post))) (hg' : Good k') : Good (.mk p [] h (pre ++ k' :: post)) := by
  have symm : ∀ {a b : BN}, (overlap a.pat b.pat = true → Flat [] a ∧ Flat [] b) →
      overlap b.pat a.pat = true → Flat [] b ∧ Flat [] a := fun hab ho => (hab (overlap_symm _ _ ▸ ho)).symm
  obtain ⟨_, hpw, hgk⟩ := hg
  rw [goodKids_append] at hgk
  refine ⟨List.nodup_nil, (List.pairwise_middle symm).mpr (List.pairwise_cons.mpr ⟨fun y hy ho => ?_, hpw⟩),
    (goodKids_append [] pre (k' :: post)).mpr ⟨hgk.1, ⟨k'.fangs, by simp⟩, hg', hgk.2⟩⟩
  -- `k'` overlaps no other child, so the pairwise condition asks nothing of it
  rw [hk', overlap_symm, hsep y hy] at ho
  cases ho

theorem scope_insert (k' : BN) (s : Seg) (hk' : k'.pat = some s) (hsep : ∀ x ∈ pre ++ post, overlap x.pat (some s) = false)
    (s0 : Bytes) (ss : List Bytes) :
    scopeBN (.mk p [] h (pre ++ k' :: post)) (s0 :: ss) =
      if segMatch s s0 then scopeBN k' ss else scopeBN (.mk p [] h (pre ++ post)) (s0 :: ss) := by
  simp only [scopeBN, scopeKids_append, scopeKids, kidMatches, hk', Option.map_some, Option.getD_some]
  by_cases hm : segMatch s s0 = true
  · have := noMatch_of_sep pre s s0 (fun x hx => hsep x (List.mem_append_left _ hx)) hm
    simp only [kidMatches] at this
    simp [hm, this]
  · simp [hm]
end

/-- One step down a free prefix.  `updKids` puts its result `k'` in the place of the child `k` on the prefix (an existing child,
    or the fresh one), among children `pre ++ post` none of which overlaps the prefix segment. Before the step the node
    answered like the one with `k` in that place (sixth part), and `k` has what the next step down needs: `ND`, `Good`, the rest of the
    prefix free, and the ids of the node. -/
theorem free_step (g : BN → Option BN) (p : Option Seg) (hh : Option Nat) (ks ks' : List BN) (s : Seg) (rest : Route)
    (hnd : ND (.mk p [] hh ks)) (hg : Good (.mk p [] hh ks)) (hfk : FreeKids s rest ks) (hk : updKids g ks s = some ks') :
    ∃ pre k post k', g k = some k' ∧ k.pat = some s ∧ ks' = pre ++ k' :: post ∧
      (∀ x ∈ pre ++ post, overlap x.pat (some s) = false) ∧ Good (.mk p [] hh (pre ++ post)) ∧
      (∀ s0 ss, scopeBN (.mk p [] hh ks) (s0 :: ss) =
        if segMatch s s0 then scopeBN k ss else scopeBN (.mk p [] hh (pre ++ post)) (s0 :: ss)) ∧
      ND k ∧ Good k ∧ Free rest k ∧ (∀ P, AllIdsKids P ks → AllIdsKids P pre ∧ AllIds P k ∧ AllIdsKids P post) := by
  rcases updKids_cases g s ks ks' hk with ⟨pre, k, post, k', rfl, hkp, hgk, rfl⟩ | ⟨hno, k', hgk, rfl⟩
  · have hsep : ∀ x ∈ pre ++ post, overlap x.pat (some s) = false := fun x hx =>
      freeKids_sep s rest _ hfk x ((List.Sublist.append_left (List.sublist_cons_self k post) pre).subset hx)
        (pats_sep pre post k s hkp hnd.1 x hx)
    have hfrk : Free rest k := by simpa [hkp] using (freeKids_iff_forall s rest _).mp hfk k (by simp)
    exact ⟨pre, k, post, k', hgk, hkp, rfl, hsep, good_erase p hh pre post k hg, scope_insert p hh pre post k s hkp hsep,
      ((nds_append pre (k :: post)).mp hnd.2).2.1, ((goodKids_append [] pre (k :: post)).mp hg.2.2).2.2.1, hfrk,
      fun P hP => by simpa [allIdsKids_append, AllIdsKids, and_assoc] using hP⟩
  · have hsep : ∀ x ∈ ks, overlap x.pat (some s) = false := fun x hx => freeKids_sep s rest ks hfk x hx (hno x hx)
    refine ⟨ks, .mk (some s) [] none [], [], k', hgk, rfl, rfl, by simpa using hsep, by simpa using hg, ?_, by simp [ND, NDs, pats],
      ⟨List.nodup_nil, List.Pairwise.nil, trivial⟩, free_empty (some s) rest, fun P hP => ⟨hP, ⟨by simp, trivial⟩, trivial⟩⟩
    -- where the fresh child would be entered, no child is, and both answer `[]`
    intro s0 ss
    rw [scopeBN_flat [] (.mk (some s) [] none []) ss ⟨rfl, trivial⟩, List.append_nil]
    split
    · next hm => exact scopeKids_noMatch [] s0 ss ks (noMatch_of_sep ks s s0 hsep hm)
    · rfl

/-- **mounting under a free prefix** grafts the mounted trie at the end of the prefix and changes nothing else -/
theorem mount_mergeAt : ∀ (r : Route) (t sub t' : BN), ND t → Good t → Free r t →
    TreeOK sub → ND sub → Good sub → mergeAt r t sub = some t' →
    Good t' ∧
    (∀ ss, scopeBN t' ss = match segUnder r ss with | some ss' => scopeBN sub ss' | none => scopeBN t ss) ∧
    (∀ P, AllIds P t → AllIds P sub → AllIds P t')
  | [], .mk p f hh ks, .mk ps fs hs kss, t', _, _, hfr, hoks, hnds, hgs, h => by
    obtain ⟨rfl, rfl, rfl⟩ := hfr
    simp only [mergeAt] at h
    rw [mergeParts_empty p (.mk ps fs hs kss) hoks hnds.1 hgs.1] at h
    cases h
    exact ⟨hgs, fun ss => by cases ss <;> simp [scopeBN, segUnder, BN.fangs, BN.kids], fun P _ h2 => h2⟩
  | s :: rest, .mk p f hh ks, sub, t', hnd, hg, hfr, hoks, hnds, hgs, h => by
    obtain ⟨rfl, hfk⟩ := hfr
    simp only [mergeAt, Option.map_eq_some_iff] at h
    obtain ⟨ks', hk, rfl⟩ := h
    obtain ⟨pre, k, post, k', hmk, hkp, rfl, hsep, hgood, hold, hndk, hgk, hfrk, hids⟩ := free_step _ p hh ks ks' s rest hnd hg hfk hk
    have hkp' : k'.pat = some s := by rw [mergeAt_pat rest k sub k' hmk, hkp]
    obtain ⟨ih1, ih2, ih3⟩ := mount_mergeAt rest k sub k' hndk hgk hfrk hoks hnds hgs hmk
    refine ⟨good_insert p hh pre post k' s hkp' hsep hgood ih1, ?_, ?_⟩
    · -- the walk: into `k'` where the prefix segment matches, and there `k'` answers like the mounted trie or like `k`
      intro ss
      cases ss with
      | nil => simp [scopeBN, segUnder]
      | cons s0 ss =>
        rw [scope_insert p hh pre post k' s hkp' hsep s0 ss, segUnder_cons, ih2 ss, hold s0 ss]
        by_cases hm : segMatch s s0 = true
        · simp only [hm, if_true]
        · simp only [hm, Bool.false_eq_true, if_false]
    · intro P hP hPs
      obtain ⟨i1, i2, i3⟩ := hids P hP.2
      exact ⟨hP.1, (allIdsKids_append P pre (k' :: post)).mpr ⟨i1, ih3 P i2 hPs, i3⟩⟩

end Ohkami.Fangs
