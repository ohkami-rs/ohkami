import OhkamiModel.P.FangsFinal
/-! C15: every registered route is found when the finalized router is searched with the route's own literal — the look-up
    `gen_openapi_doc` performs for each (route, method) pair (`router.search_target(route)`): static segments as written, a param segment as
    `:name`.  Needs: sibling patterns distinct (`ND`, proved for every built trie) and no static segment beginning with `:` (what
    `RouteSegment` parsing guarantees: such a segment IS a param). -/
namespace Ohkami.Fangs
open Ohkami

def COLONB : UInt8 := 58

def LitOf : Route → List Bytes → Prop
  | [], [] => True
  | .static c :: r, s :: ss => s = c ∧ LitOf r ss
  | .param :: r, s :: ss => s.head? = some COLONB ∧ LitOf r ss
  | _, _ => False

mutual
/-- no static child pattern begins with `:`, node by node; the proofs go through the equivalent `Every NoColonL` (`noColonT_iff`) -/
def NoColonT : BN → Prop
  | .mk _ _ _ ks => NoColonKs ks
def NoColonKs : List BN → Prop
  | [] => True
  | k :: ks => (∀ c, k.pat = some (.static c) → c.head? ≠ some COLONB) ∧ NoColonT k ∧ NoColonKs ks
end

def segOK (s : Seg) : Prop := ∀ c, s = .static c → c.head? ≠ some COLONB
def routeOK (r : Route) : Prop := ∀ s ∈ r, segOK s

mutual
def CfgOK : App → Prop
  | .mk _ _ routes mounts => (∀ rh ∈ routes, routeOK rh.1) ∧ MountsOK mounts
def MountsOK : List (Route × App) → Prop
  | [] => True
  | (r, a) :: rest => routeOK r ∧ CfgOK a ∧ MountsOK rest
end

theorem noColon_fresh (s : Seg) (hs : segOK s) : NoColonKs [BN.mk (some s) [] none []] := by
  refine ⟨?_, trivial, trivial⟩
  intro c hc
  simp only [BN.pat, Option.some.injEq] at hc
  exact hs c hc

/-- `NoColonT` as an invariant of the lists of child patterns (`FangsNodup.lean`) -/
def NoColonL (l : List (Option Seg)) : Prop := ∀ c, some (.static c) ∈ l → c.head? ≠ some COLONB

mutual
theorem noColonT_iff : ∀ t, NoColonT t ↔ Every NoColonL t
  | .mk _ _ _ ks => by rw [NoColonT, Every, noColonKs_iff ks]
theorem noColonKs_iff : ∀ ks, NoColonKs ks ↔ NoColonL (pats ks) ∧ EveryKids NoColonL ks
  | [] => by simp [NoColonKs, EveryKids, NoColonL, pats]
  | k :: ks => by
    rw [NoColonKs, EveryKids, noColonT_iff k, noColonKs_iff ks]
    simp only [NoColonL, pats, List.map_cons, List.mem_cons]
    exact ⟨fun ⟨a, b, c, d⟩ => ⟨fun x hx => hx.elim (fun e => a x e.symm) (c x), b, d⟩,
      fun ⟨a, b, d⟩ => ⟨fun x hx => a x (Or.inl hx.symm), b, fun x hx => a x (Or.inr hx), d⟩⟩
end

theorem noColonL_closed : PatsClosed NoColonL segOK where
  nil := by simp [NoColonL]
  snoc hl _ hs := by
    intro c hc
    rcases List.mem_append.mp hc with hc | hc
    · exact hl c hc
    · simp only [List.mem_singleton, Option.some.injEq] at hc
      exact hs c hc.symm
  of_mem hl hm := fun c hc => hl c (hc ▸ hm)

theorem noColon_applyKids (id : Nat) : ∀ ks : List BN, NoColonKs ks → NoColonKs (applyKids id ks) := by
  intro ks h
  rw [noColonKs_iff, pats_applyKids] at *
  exact ⟨h.1, everyKids_applyKids id ks h.2⟩

theorem noColon_builds : (∀ cfg t, build cfg = some t → CfgOK cfg → Every NoColonL t) ∧
    (∀ mounts t t', buildMounts t mounts = some t' → MountsOK mounts → Every NoColonL t → Every NoColonL t') :=
  build_induct (P := fun cfg t => CfgOK cfg → Every NoColonL t)
    (Q := fun mounts t t' => MountsOK mounts → Every NoColonL t → Every NoColonL t')
    (fun id hf routes _ t1 t2 h1 _ q hc => every_app noColonL_closed id hf routes t1 t2 hc.1 h1 (q hc.2))
    (fun _ _ h => h)
    (fun r _ _ t sub t1 _ _ p h1 _ q hm ht => q hm.2.2 (every_mergeAt noColonL_closed r t sub t1 hm.1 ht (p hm.2.1) h1))

theorem noColon_buildMounts : ∀ (mounts : List (Route × App)) (t t' : BN), TreeOK t → NoColonT t → MountsOK mounts →
    buildMounts t mounts = some t' → NoColonT t' :=
  fun mounts t t' _ hn hm h => (noColonT_iff t').mpr (noColon_builds.2 mounts t t' h hm ((noColonT_iff t).mp hn))

/-- `LitOf` for one segment -/
def segLit : Seg → Bytes → Prop
  | .static c, s0 => s0 = c
  | .param, s0 => s0.head? = some COLONB

theorem litOf_nil_left : ∀ ss, LitOf [] ss → ss = []
  | [], _ => rfl
  | _ :: _, h => by simp [LitOf] at h

theorem litOf_cons {s : Seg} {r : Route} : ∀ {ss : List Bytes}, LitOf (s :: r) ss → ∃ s0 rest, ss = s0 :: rest ∧ segLit s s0 ∧ LitOf r rest
  | [], h => by cases s <;> simp [LitOf] at h
  | s0 :: rest, h => by cases s <;> exact ⟨s0, rest, rfl, h⟩

theorem segMatch_of_lit {s : Seg} {s0 : Bytes} (h : segLit s s0) : segMatch s s0 = true := by
  cases s with
  | «static» c => simpa [segMatch, segLit] using h
  | param =>
    simp only [segMatch, decide_eq_true_eq]
    rintro rfl
    cases h

theorem takePats_lit : ∀ (a b : Route) (ss : List Bytes), LitOf (a ++ b) ss → ∃ rest, takePats a ss = some rest ∧ LitOf b rest
  | [], b, ss, h => ⟨ss, by simp [takePats], by simpa using h⟩
  | s :: a, b, ss, h => by
    obtain ⟨s0, rest, rfl, hs, hl⟩ := litOf_cons h
    rw [takePats_cons, segMatch_of_lit hs]
    exact takePats_lit a b rest hl

theorem litOf_length : ∀ (r : Route) (ss : List Bytes), LitOf r ss → ss.length = r.length
  | [], ss, h => by
    rw [litOf_nil_left ss h]
    rfl
  | s :: r, ss, h => by
    obtain ⟨s0, rest, rfl, _, hl⟩ := litOf_cons h
    simp [litOf_length r rest hl]

theorem fin_pats_lit (F : Nat) (k : BN) (o : Bool) (r : Route) (x : Nat) (ss : List Bytes)
    (hr : (r, x) ∈ routesOfBN k) (hl : LitOf (k.pat.toList ++ r) ss) : (takePats (finalize true F k o).pats ss).isSome := by
  obtain ⟨p, f, h, ks⟩ := k
  obtain ⟨chain, e, hc, hfin⟩ := finalize_eq F p f h ks o
  obtain ⟨r', rfl, _⟩ := hc.mem_routes.mp hr
  rw [BN.pat, ← List.append_assoc] at hl
  obtain ⟨rest, h1, _⟩ := takePats_lit (p.toList ++ chain) r' ss hl
  simp [hfin, h1]

theorem pat_inj : ∀ ks : List BN, (pats ks).Nodup → ∀ a ∈ ks, ∀ b ∈ ks, a.pat = b.pat → a = b
  | [], _, a, ha, _, _, _ => by cases ha
  | k :: ks, hn, a, ha, b, hb, he => by
    simp only [pats, List.map_cons, List.nodup_cons, List.mem_map, not_exists, not_and] at hn
    rcases List.mem_cons.mp ha with rfl | ha' <;> rcases List.mem_cons.mp hb with rfl | hb'
    · rfl
    · exact absurd he.symm (hn.1 b hb')
    · exact absurd he (hn.1 a ha')
    · exact pat_inj ks hn.2 a ha' b hb' he

/-- a pattern that matches the literal of `sk` is `sk`, or the param beside a static `sk`: a static pattern of other bytes differs from
    the literal (from a `:name` because it is colon-free) -/
theorem segMatch_lit {sa sk : Seg} {s0 : Bytes} (hlit : segLit sk s0) (hm : segMatch sa s0 = true) (hnc : segOK sa) :
    sa = sk ∨ (isStatic (some sa) = false ∧ isStatic (some sk) = true) := by
  cases sa <;> cases sk <;> simp only [segMatch, segLit, decide_eq_true_eq] at hm hlit
  · exact .inl (by rw [← hm, hlit])
  · exact absurd (hm ▸ hlit) (hnc _ rfl)
  · exact .inr ⟨rfl, rfl⟩
  · exact .inl rfl

theorem find_picks (ks : List BN) (g : BN → CN) (k : BN) (sk : Seg) (s0 : Bytes) (rest' : List Bytes)
    (hok : OKL (pats ks)) (hn : (pats ks).Nodup) (hnc : NoColonL (pats ks)) (hk : k ∈ ks) (hp : k.pat = some sk) (hlit : segLit sk s0)
    (hg : ∀ a, ∃ chain, (g a).pats = a.pat.toList ++ chain) (hsucc : (takePats (g k).pats (s0 :: rest')).isSome) :
    (sortKids ks).find? (fun a => (takePats (g a).pats (s0 :: rest')).isSome) = some k := by
  refine find?_sortKids hk hsucc fun a ha h => ?_
  obtain ⟨chain, hc⟩ := hg a
  obtain ⟨sa, hsa⟩ := kid_pat hok ha
  rw [hc, hsa, Option.toList, List.cons_append, takePats_cons] at h
  split at h
  · rename_i hm
    rw [hsa, hp]
    refine (segMatch_lit hlit hm fun c hc => hnc c (hc ▸ hsa ▸ List.mem_map_of_mem ha)).imp_left fun he => ?_
    exact pat_inj ks hn a ha k hk (by rw [hsa, hp, he])
  · cases h

theorem routes_cases (p : Option Seg) (f : List Nat) (h : Option Nat) (ks : List BN) (r : Route) (x : Nat) (hok : OKL (pats ks))
    (hm : (r, x) ∈ routesOfBN (.mk p f h ks)) :
    (r = [] ∧ h = some x) ∨ ∃ k ∈ ks, ∃ s r', k.pat = some s ∧ r = s :: r' ∧ (r', x) ∈ routesOfBN k := by
  refine ((mem_routesOfBN ..).mp hm).imp_right fun hk => ?_
  obtain ⟨k, hk', r', he, hr⟩ := (mem_routesOfKids ..).mp hk
  obtain ⟨s, hs⟩ := kid_pat hok hk'
  exact ⟨k, hk', s, r', hs, by rw [he, hs]; rfl, hr⟩

/-- a node of the trie, finalized and searched with the literal of a route that passes through it: the route's handler is found -/
theorem kid_found : ∀ (F G : Nat) (k : BN) (o : Bool) (r : Route) (x : Nat) (ss : List Bytes),
    Every OKL k → Every List.Nodup k → Every NoColonL k →
    (r, x) ∈ routesOfBN k → LitOf (k.pat.toList ++ r) ss → r.length ≤ F → r.length < G →
    (search G (finalize true F k o) ss).2 = some x := by
  intro F G
  induction G generalizing F with
  | zero => intro k o r x ss _ _ _ _ _ _ hG; omega
  | succ G ih =>
    intro ⟨p, f, h, ks⟩ o r x ss hok hnd hnc hr hl hF hG
    obtain ⟨chain, ⟨pe, fe, he, kse⟩, hc, hfin⟩ := finalize_eq F p f h ks o
    obtain ⟨r', rfl, hr2⟩ := hc.mem_routes.mp hr
    have hoke := hc.every (every_inhKids f hok)
    rw [BN.pat, ← List.append_assoc] at hl
    obtain ⟨rest, h1, h2⟩ := takePats_lit (p.toList ++ chain) r' ss hl
    rw [hfin, search_succ, h1]
    rcases routes_cases pe fe he kse r' x hoke.1 hr2 with ⟨rfl, hh⟩ | ⟨k2, hk2, s, r'', hp2, rfl, hm2⟩
    · -- the route ends at the end of the chain: the literal is used up and the handler sits there
      obtain rfl := litOf_nil_left rest h2
      simp [after, BN.handler, hh]
    · -- the route goes on into the child `k2` of its next segment, which the literal picks among the sorted children
      obtain ⟨F, rfl⟩ : ∃ F', F = F' + 1 := ⟨F - 1, by simp only [List.length_append, List.length_cons] at hF; omega⟩
      have hnde := hc.every (every_inhKids f hnd)
      have hnce := hc.every (every_inhKids f hnc)
      obtain ⟨s0, rest', rfl, hlit, _⟩ := litOf_cons h2
      have hlit2 : LitOf (k2.pat.toList ++ r'') (s0 :: rest') := by rw [hp2]; exact h2
      have hpick := find_picks kse (fin F fe) k2 s s0 rest' hoke.1 hnde.1 hnce.1 hk2 hp2 hlit
        (fun a => pats_finalize F a _) (fin_pats_lit F k2 _ r'' x (s0 :: rest') hm2 hlit2)
      simp only [BN.fangs, BN.handler, after_finKids, hpick]
      simp only [List.length_append, List.length_cons] at hF hG
      exact ih F k2 _ r'' x (s0 :: rest') (hoke.kid hk2) (hnde.kid hk2) (hnce.kid hk2) hm2 hlit2 (by omega) (by omega)

end Ohkami.Fangs
