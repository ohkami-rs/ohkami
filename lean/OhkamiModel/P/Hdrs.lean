import OhkamiModel.Basic
/-! The primitives of `byte_reader` (`read_while`, `consume`) that `Request::read` is written with, what each does on `a ++ sep :: rest` and
    what a result says about the input; the header loop as a bare scanner (names and values kept raw) with its round trip. -/
namespace Ohkami.P

def CR : UInt8 := 13
def LF : UInt8 := 10
def COLON : UInt8 := 58
def SP : UInt8 := 32

def readWhile (p : UInt8 → Bool) : Bytes → Bytes × Bytes
  | [] => ([], [])
  | b :: bs => if p b then let (a, r) := readWhile p bs; (b :: a, r) else ([], b :: bs)

def consume (tok : Bytes) (bs : Bytes) : Option Bytes :=
  if tok.isPrefixOf bs then some (bs.drop tok.length) else none

inductive Out (α : Type) where
  | ok (a : α) | bad
deriving Repr

-- header loop of Request::read (names/values kept raw)
def parseHeaders : Nat → Bytes → Out (List (Bytes × Bytes) × Bytes)
  | 0, _ => .bad
  | fuel + 1, bs =>
    match consume [CR, LF] bs with
    | some rest => .ok ([], rest)
    | none =>
      let (k, r1) := readWhile (· != COLON) bs
      match consume [COLON, SP] r1 with
      | none => .bad
      | some r2 =>
        let (v, r3) := readWhile (· != CR) r2
        match consume [CR, LF] r3 with
        | none => .bad
        | some r4 =>
          match parseHeaders fuel r4 with
          | .ok (hs, rest) => .ok ((k, v) :: hs, rest)
          | .bad => .bad

def encodeHeaders (hs : List (Bytes × Bytes)) : Bytes :=
  (hs.map fun (k, v) => k ++ [COLON, SP] ++ v ++ [CR, LF]).flatten

def WFHeader (kv : Bytes × Bytes) : Prop :=
  kv.1 ≠ [] ∧ (∀ b ∈ kv.1, b ≠ COLON ∧ b ≠ CR) ∧ (∀ b ∈ kv.2, b ≠ CR)

theorem readWhile_append (p : UInt8 → Bool) (a : Bytes) (s : UInt8) (rest : Bytes)
    (ha : ∀ b ∈ a, p b = true) (hs : p s = false) :
    readWhile p (a ++ s :: rest) = (a, s :: rest) := by
  induction a with
  | nil => simp [readWhile, hs]
  | cons b a ih =>
    have hb : p b = true := ha b (by simp)
    have := ih (fun x hx => ha x (by simp [hx]))
    simp [readWhile, hb, this]

theorem readWhile_spec (p : UInt8 → Bool) (bs : Bytes) :
    bs = (readWhile p bs).1 ++ (readWhile p bs).2 ∧ (∀ b ∈ (readWhile p bs).1, p b = true) ∧
    ((readWhile p bs).2 = [] ∨ ∃ c r, (readWhile p bs).2 = c :: r ∧ p c = false) := by
  fun_induction readWhile p bs
  case case1 => simp
  case case2 b bs hb a r hr ih =>
    rw [hr] at ih
    exact ⟨congrArg (b :: ·) ih.1, List.forall_mem_cons.mpr ⟨hb, ih.2.1⟩, ih.2.2⟩
  case case3 b bs hb => exact ⟨rfl, nofun, .inr ⟨b, bs, rfl, by simpa using hb⟩⟩

theorem readWhile_eq {p : UInt8 → Bool} {bs a r : Bytes} (h : readWhile p bs = (a, r)) :
    bs = a ++ r ∧ (∀ b ∈ a, p b = true) ∧ (r = [] ∨ ∃ c r', r = c :: r' ∧ p c = false) := by
  have := readWhile_spec p bs
  rwa [h] at this

theorem consume_eq_some {tok bs rest : Bytes} : consume tok bs = some rest ↔ bs = tok ++ rest := by
  fun_cases consume tok bs
  case case1 hp =>
    obtain ⟨t, rfl⟩ := List.isPrefixOf_iff_prefix.mp hp
    simp
  case case2 hp => exact ⟨nofun, fun h => absurd (by simp [h]) hp⟩

theorem encodeHeaders_cons (k v : Bytes) (hs : List (Bytes × Bytes)) (t : Bytes) :
    encodeHeaders ((k, v) :: hs) ++ t = k ++ COLON :: SP :: (v ++ CR :: LF :: (encodeHeaders hs ++ t)) := by
  simp [encodeHeaders]

theorem encodeHeaders_length (hs : List (Bytes × Bytes)) : hs.length ≤ (encodeHeaders hs).length := by
  induction hs with
  | nil => simp [encodeHeaders]
  | cons kv hs ih =>
    have : encodeHeaders (kv :: hs) = (kv.1 ++ [COLON, SP] ++ kv.2 ++ [CR, LF]) ++ encodeHeaders hs := by
      simp [encodeHeaders]
    rw [this]
    simp only [List.length_append, List.length_cons, List.length_nil]
    omega

theorem consume_crlf_line (k t : Bytes) : consume [CR, LF] (k ++ COLON :: t) = none ↔ consume [CR, LF] (k ++ [COLON]) = none := by
  match k with
  | [] => simp [consume, List.isPrefixOf, CR, COLON]
  | [a] => simp [consume, List.isPrefixOf, LF, COLON]
  | a :: b :: k' => simp [consume, List.isPrefixOf]

theorem consume_crlf_name {k : Bytes} (hk0 : k ≠ []) (hk : ∀ b ∈ k, b ≠ CR) : consume [CR, LF] (k ++ [COLON]) = none := by
  match k, hk0, hk with
  | a :: t, _, hk => simp [consume, List.isPrefixOf, (hk a (by simp)).symm]

theorem line_scan (k v t : Bytes) (hk : ∀ b ∈ k, b ≠ COLON) (hv : ∀ b ∈ v, b ≠ CR) :
    readWhile (· != COLON) (k ++ COLON :: SP :: (v ++ CR :: LF :: t)) = (k, COLON :: SP :: (v ++ CR :: LF :: t)) ∧
    consume [COLON, SP] (COLON :: SP :: (v ++ CR :: LF :: t)) = some (v ++ CR :: LF :: t) ∧
    readWhile (· != CR) (v ++ CR :: LF :: t) = (v, CR :: LF :: t) ∧ consume [CR, LF] (CR :: LF :: t) = some t :=
  ⟨readWhile_append _ k COLON _ (fun b hb => by simpa using hk b hb) (by simp), consume_eq_some.mpr rfl,
    readWhile_append _ v CR _ (fun b hb => by simpa using hv b hb) (by simp), consume_eq_some.mpr rfl⟩

theorem parseHeaders_encode (hs : List (Bytes × Bytes)) (hwf : ∀ kv ∈ hs, WFHeader kv) (rest : Bytes) :
    parseHeaders (hs.length + 1) (encodeHeaders hs ++ [CR, LF] ++ rest) = .ok (hs, rest) := by
  induction hs with
  | nil => simp [parseHeaders, encodeHeaders, consume]
  | cons kv hs ih =>
    obtain ⟨k, v⟩ := kv
    obtain ⟨hk0, hk, hv⟩ := hwf (k, v) (by simp)
    dsimp only at hk0 hk hv
    have hnc := consume_crlf_name hk0 fun b hb => (hk b hb).2
    obtain ⟨s1, s2, s3, s4⟩ := line_scan k v (encodeHeaders hs ++ ([CR, LF] ++ rest)) (fun b hb => (hk b hb).1) hv
    rw [List.append_assoc, encodeHeaders_cons, List.length_cons, parseHeaders]
    simp only [(consume_crlf_line k _).mpr hnc, s1, s2, s3, s4]
    rw [← List.append_assoc, ih (fun x hx => hwf x (by simp [hx]))]

end Ohkami.P
