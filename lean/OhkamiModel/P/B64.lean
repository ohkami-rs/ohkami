import OhkamiModel.Basic
/-! Prototype: base64 (STANDARD, padded, canonical) model + BasicAuth statement. -/
namespace Ohkami.B64

def alphabet : List UInt8 :=
  "ABCDEFGHIJKLMNOPQRSTUVWXYZabcdefghijklmnopqrstuvwxyz0123456789+/".toList.map (·.toNat.toUInt8)

def encChar (n : Nat) : UInt8 := alphabet.getD n 0
def decChar (c : UInt8) : Option Nat := let i := alphabet.idxOf c; if i < 64 then some i else none
def pad : UInt8 := 61

def encode : Bytes → Bytes
  | a :: b :: c :: rest =>
    let n := a.toNat * 65536 + b.toNat * 256 + c.toNat
    encChar (n / 262144) :: encChar (n / 4096 % 64) :: encChar (n / 64 % 64) :: encChar (n % 64) :: encode rest
  | [a, b] =>
    let n := a.toNat * 65536 + b.toNat * 256
    [encChar (n / 262144), encChar (n / 4096 % 64), encChar (n / 64 % 64), pad]
  | [a] =>
    let n := a.toNat * 65536
    [encChar (n / 262144), encChar (n / 4096 % 64), pad, pad]
  | [] => []

-- canonical decode: padding required, trailing bits must be zero
def decode : Bytes → Option Bytes
  | [] => some []
  | [c0, c1, c2, c3] =>
    if c2 = pad ∧ c3 = pad then do
      let a ← decChar c0; let b ← decChar c1
      if b % 16 = 0 then some [(a * 4 + b / 16).toUInt8] else none
    else if c3 = pad then do
      let a ← decChar c0; let b ← decChar c1; let c ← decChar c2
      if c % 4 = 0 then some [(a * 4 + b / 16).toUInt8, (b % 16 * 16 + c / 4).toUInt8] else none
    else do
      let a ← decChar c0; let b ← decChar c1; let c ← decChar c2; let d ← decChar c3
      some [(a * 4 + b / 16).toUInt8, (b % 16 * 16 + c / 4).toUInt8, (c % 4 * 64 + d).toUInt8]
  | c0 :: c1 :: c2 :: c3 :: rest => do
      let a ← decChar c0; let b ← decChar c1; let c ← decChar c2; let d ← decChar c3
      let tl ← decode rest
      some ((a * 4 + b / 16).toUInt8 :: (b % 16 * 16 + c / 4).toUInt8 :: (c % 4 * 64 + d).toUInt8 :: tl)
  | _ => none


example : decode (encode [117, 58, 112]) = some [117, 58, 112] := by decide
example : encode [255] = "/w==".toList.map (·.toNat.toUInt8) := by decide

end Ohkami.B64

namespace Ohkami.BasicAuth
open Ohkami.B64

structure Pair where (user pass : Bytes)
def colon : UInt8 := 58
def basicPrefix : Bytes := "Basic ".toList.map (·.toNat.toUInt8)

inductive Out where | admit | unauthorized | panic deriving DecidableEq, Repr

def splitOnce (c : UInt8) : Bytes → Option (Bytes × Bytes)
  | [] => none
  | b :: bs => if b = c then some ([], bs) else (splitOnce c bs).map fun (l, r) => (b :: l, r)

-- `validUtf8` is a parameter here; the checks put `Http.validUtf8` in
def fore (validUtf8 : Bytes → Bool) (pairs : List Pair) (auth : Option Bytes) : Out :=
  match auth with
  | none => .unauthorized
  | some v =>
    if basicPrefix.isPrefixOf v then
      match decode (v.drop basicPrefix.length) with
      | none => .unauthorized
      | some cred =>
        if !validUtf8 cred then .unauthorized       -- the unrepaired code panicked on some of these inputs
        else match splitOnce colon cred with
          | none => .unauthorized
          | some (u, p) => if pairs.any (fun pr => pr.user = u ∧ pr.pass = p) then .admit else .unauthorized
    else .unauthorized


end Ohkami.BasicAuth
