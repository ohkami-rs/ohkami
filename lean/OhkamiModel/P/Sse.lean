import OhkamiModel.Basic
/-! C17 model: `QueueStream::poll_next` as a step machine, the `data:` framing and the chunk framing of `send`. -/
namespace Ohkami.Sse

/-! ### QueueStream::poll_next as a step machine (ohkami_lib/src/stream.rs:321-338) -/

-- one poll of the producer future: what it pushes during that poll and whether it completes
structure PStep where
  pushes : List Bytes
  ready  : Bool
deriving Repr

structure QS where
  queue : List Bytes
  done  : Bool            -- queuing_state = None
deriving Repr

inductive Poll where
  | item (b : Bytes) | pending | finished
deriving Repr, DecidableEq

-- one `poll_next`; consumes one producer step unless the producer already completed
def pollNext (s : QS) (sched : List PStep) : Poll × QS × List PStep :=
  if s.done then
    match s.queue with
    | [] => (.finished, s, sched)
    | x :: q => (.item x, { s with queue := q }, sched)
  else
    match sched with
    | [] => -- producer would be polled but the script is exhausted: treat as Pending forever
      (match s.queue with | [] => (.pending, s, []) | x :: q => (.item x, { s with queue := q }, []))
    | st :: rest =>
      let q := s.queue ++ st.pushes
      if st.ready then
        match q with
        | [] => (.finished, { queue := [], done := true }, rest)
        | x :: q' => (.item x, { queue := q', done := true }, rest)
      else
        match q with
        | [] => (.pending, { queue := [], done := false }, rest)
        | x :: q' => (.item x, { queue := q', done := false }, rest)

-- drive `while let Some(chunk) = stream.next().await` ; Pending = re-poll (the waker fires)
def drain : Nat → QS → List PStep → List Bytes
  | 0, _, _ => []
  | fuel + 1, s, sched =>
    match pollNext s sched with
    | (.item x, s', sched') => x :: drain fuel s' sched'
    | (.pending, s', sched') => if sched'.isEmpty then [] else drain fuel s' sched'
    | (.finished, _, _) => []

def allPushes (sched : List PStep) : List Bytes := (sched.map (·.pushes)).flatten

def EndsReady (sched : List PStep) : Prop := ∃ pre last, sched = pre ++ [last] ∧ last.ready = true ∧ ∀ s ∈ pre, s.ready = false

-- every message pushed is yielded exactly once, in order, whatever the poll schedule

/-! ### framing (ohkami/src/response/mod.rs, the `Content::Stream` arm of `send`) -/
def LF : UInt8 := 10
def CR : UInt8 := 13
def dataPrefix : Bytes := [100, 97, 116, 97, 58, 32]   -- "data: "

def splitOn (sep : UInt8) : Bytes → List Bytes
  | [] => [[]]
  | b :: bs =>
    match splitOn sep bs with
    | [] => [[]]                       -- unreachable
    | l :: ls => if b = sep then [] :: l :: ls else (b :: l) :: ls

/-- CRLF, CR and LF are all line breaks of the event-stream format: `chunk.replace("\r\n", "\n").replace('\r', "\n")` -/
def normalizeNewlines : Bytes → Bytes
  | [] => []
  | [b] => if b = CR then [LF] else [b]
  | b :: c :: r => if b = CR then (if c = LF then LF :: normalizeNewlines r else LF :: normalizeNewlines (c :: r)) else b :: normalizeNewlines (c :: r)

def message (chunk : Bytes) : Bytes :=
  ((splitOn LF (normalizeNewlines chunk)).map fun line => dataPrefix ++ line ++ [LF]).flatten ++ [LF]

def hexDigit (n : Nat) : UInt8 := if n < 10 then (48 + n).toUInt8 else (87 + n).toUInt8
def hexNoLeading : Nat → Nat → Bytes      -- fuel, n
  | 0, _ => []
  | f + 1, n => if n < 16 then [hexDigit n] else hexNoLeading f (n / 16) ++ [hexDigit (n % 16)]

def chunkOf (msg : Bytes) : Bytes := hexNoLeading 16 msg.length ++ [CR, LF] ++ msg ++ [CR, LF]
def body (items : List Bytes) : Bytes := (items.map fun c => chunkOf (message c)).flatten ++ [48, CR, LF, CR, LF]


end Ohkami.Sse
