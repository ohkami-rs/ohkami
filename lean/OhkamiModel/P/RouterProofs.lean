import OhkamiModel.P.Router
/-! Lemmas on the flat route table.  `stepStatic` and `stepParam` are one operation, `step x`: the routes that
    continue with segment `x`, with `x` consumed.  Facts are proved for `step` and read off for the two. -/
namespace Ohkami

def step (x : Seg) (rs : List (Route × Nat)) : List (Route × Nat) :=
  rs.filterMap fun rh => match rh.1 with
    | y :: t => if y = x then some (t, rh.2) else none
    | [] => none

theorem stepStatic_eq (rs : List (Route × Nat)) (s : Bytes) : stepStatic rs s = step (.static s) rs := by
  unfold stepStatic step
  congr 1
  funext ⟨r, h⟩
  match r with
  | [] => rfl
  | .param :: t => simp
  | .static y :: t => simp

theorem stepParam_eq (rs : List (Route × Nat)) : stepParam rs = step .param rs := by
  unfold stepParam step
  congr 1
  funext ⟨r, h⟩
  match r with
  | [] => rfl
  | .param :: t => simp
  | .static y :: t => simp

theorem mem_step {x : Seg} {rs : List (Route × Nat)} {t : Route} {h : Nat} :
    (t, h) ∈ step x rs ↔ (x :: t, h) ∈ rs := by
  simp only [step, List.mem_filterMap]
  constructor
  · rintro ⟨⟨r, h'⟩, hm, he⟩
    match r, he with
    | y :: t', he =>
      simp only at he
      split at he
      · next hy => cases he; exact hy ▸ hm
      · cases he
  · intro hm
    exact ⟨_, hm, by simp⟩

theorem mem_stepStatic {rs : List (Route × Nat)} {s : Bytes} {t : Route} {h : Nat} :
    (t, h) ∈ stepStatic rs s ↔ (.static s :: t, h) ∈ rs := by
  rw [stepStatic_eq, mem_step]

theorem mem_stepParam {rs : List (Route × Nat)} {t : Route} {h : Nat} :
    (t, h) ∈ stepParam rs ↔ (.param :: t, h) ∈ rs := by
  rw [stepParam_eq, mem_step]

theorem step_cons_eq (x : Seg) (t : Route) (h : Nat) (rs : List (Route × Nat)) :
    step x ((x :: t, h) :: rs) = (t, h) :: step x rs := by
  simp [step]

theorem step_cons_ne (x : Seg) {r : Route} (h : Nat) (rs : List (Route × Nat)) (hr : ∀ t, r ≠ x :: t) :
    step x ((r, h) :: rs) = step x rs := by
  match r, hr with
  | [], _ => simp [step]
  | y :: t, hr =>
    have : y ≠ x := fun e => hr t (e ▸ rfl)
    simp [step, this]

theorem step_append (x : Seg) (a b : List (Route × Nat)) : step x (a ++ b) = step x a ++ step x b :=
  List.filterMap_append

/-- `l.map (p :: ·)`: the routes of a child of pattern `p`, as its parent's table holds them -/
theorem step_map_cons (x p : Seg) (l : List (Route × Nat)) :
    step x (l.map fun rh => (p :: rh.1, rh.2)) = if p = x then l else [] := by
  by_cases hp : p = x <;> simp [step, List.filterMap_map, Function.comp_def, hp]

theorem NodupRoutes_unique {rs : List (Route × Nat)} (hn : NodupRoutes rs) {r : Route} {h h' : Nat}
    (hm : (r, h) ∈ rs) (hm' : (r, h') ∈ rs) : h = h' := by
  -- "same route, same handler" holds of an entry and itself, and of two different entries because their routes differ
  have hp : rs.Pairwise (fun a b => a.1 ≠ b.1) := List.pairwise_map.mp hn
  exact List.Pairwise.forall_of_forall_of_flip (R := fun a b => a.1 = b.1 → a.2 = b.2)
    (fun _ _ _ => rfl) (hp.imp fun hne e => absurd e hne) (hp.imp fun hne e => absurd e.symm hne) hm hm' rfl

theorem greedy_miss' (segs : List Bytes) (rs : List (Route × Nat))
    (hno : ∀ r h ps, (r, h) ∈ rs → ¬ Matches r segs ps) : greedy rs segs = none := by
  fun_induction greedy rs segs with
  | case1 rs =>
    simp only [Option.map_eq_none_iff, List.find?_eq_none, decide_eq_true_eq]
    intro ⟨r, h⟩ hm hr
    cases hr
    exact hno [] h [] hm .nil
  | case2 rs s ss hc ih =>
    exact ih fun r h ps hm hM => hno _ h ps (mem_stepStatic.mp hm) (.static s hc.1 hM)
  | case3 rs s ss _ hp ih =>
    rw [ih fun r h ps hm hM => hno _ h (s :: ps) (mem_stepParam.mp hm) (.param s hp.1 hM)]
    rfl
  | case4 => rfl

end Ohkami
