import OhkamiModel.P.SerdePrims
/-! C09 round trip, value level: for every well-typed, unambiguous value in value position,
    the reader applied to the writer's text gives the value back and stops exactly at the end of it. -/
namespace Ohkami.Serde

/-- text that `next_section` reads as one piece: no `&`, no `=` -/
def Clean (r : Bytes) : Prop := ∀ x ∈ r, x ≠ AMP ∧ x ≠ EQ
/-- text that stays one piece inside a sequence too: no `,` either -/
def CleanC (r : Bytes) : Prop := ∀ x ∈ r, x ≠ AMP ∧ x ≠ EQ ∧ x ≠ COMMA
/-- where a value section ends: at the end of the input or before `&` -/
def Stop (rest : Bytes) : Prop := rest = [] ∨ ∃ t, rest = AMP :: t

theorem CleanC.clean {r} (h : CleanC r) : Clean r := fun x hx => ⟨(h x hx).1, (h x hx).2.1⟩

theorem findPunc_clean_append (r rest : Bytes) (h : Clean r) :
    findPunc (r ++ rest) = (findPunc rest).map (· + r.length) := by
  induction r with
  | nil => simp
  | cons b bs ih =>
    have hb := h b (by simp)
    have ih' := ih (fun x hx => h x (by simp [hx]))
    simp only [List.cons_append, findPunc]
    rw [if_neg (not_or.2 ⟨hb.2, hb.1⟩), ih']
    cases findPunc rest <;> simp [Nat.add_assoc]

theorem nextSection_value (r rest : Bytes) (h : Clean r) (hs : Stop rest) :
    nextSection ⟨r ++ rest, .value⟩ = .ok (r, ⟨rest, .value⟩) := by
  unfold nextSection
  simp only [findPunc_clean_append r rest h]
  rcases hs with rfl | ⟨t, rfl⟩
  · simp [findPunc]
  · simp [findPunc, AMP, EQ]

theorem nextSection_key (k rest : Bytes) (h : Clean k) (hk : k ≠ []) :
    nextSection ⟨k ++ EQ :: rest, .key⟩ = .ok (k, ⟨EQ :: rest, .key⟩) := by
  unfold nextSection
  simp only [findPunc_clean_append k (EQ :: rest) h]
  have : k.length ≠ 0 := by simpa using hk
  obtain ⟨n, hn⟩ : ∃ n, k.length = n + 1 := ⟨k.length - 1, by omega⟩
  simp [findPunc, EQ, hn]

theorem sectionOr_value (site : String) (r rest : Bytes) (h : Clean r) (hs : Stop rest) :
    sectionOr false site ⟨r ++ rest, .value⟩ = .ok (r, ⟨rest, .value⟩) := by
  rw [sectionOr_false, nextSection_value r rest h hs]

theorem cleanC_encode (s : Bytes) : CleanC (Percent.encode s) :=
  Percent.encode_all (fun x h => by refine ⟨?_, ?_, ?_⟩ <;> (rintro rfl; revert h; decide)) (by decide) s

theorem digit_clean (d : Nat) (hd : d < 10) : (48 + d).toUInt8 ≠ AMP ∧ (48 + d).toUInt8 ≠ EQ ∧ (48 + d).toUInt8 ≠ COMMA := by
  have : ∀ d : Fin 10, (48 + d.val).toUInt8 ≠ AMP ∧ (48 + d.val).toUInt8 ≠ EQ ∧ (48 + d.val).toUInt8 ≠ COMMA := by decide
  exact this ⟨d, hd⟩

theorem cleanC_showInt (z : Int) : CleanC (showInt z) :=
  Concrete.showInt_all (by decide) (fun b h => by refine ⟨?_, ?_, ?_⟩ <;> (rintro rfl; revert h; decide)) z

theorem cleanC_nil : CleanC [] := by intro x hx; cases hx

theorem clean_joinSeq : ∀ rs : List Bytes, (∀ r ∈ rs, CleanC r) → Clean (joinSeq true rs) := by
  intro rs h
  cases rs with
  | nil => intro x hx; simp [joinSeq] at hx
  | cons r rs =>
    intro x hx
    simp only [joinSeq, Bool.not_true, Bool.false_and, Bool.false_eq_true, if_false, List.mem_append, List.mem_flatMap, List.mem_cons] at hx
    rcases hx with hx | ⟨r', hr', rfl | hx⟩
    · exact (h r (by simp)).clean x hx
    · decide
    · exact (h r' (by simp [hr'])).clean x hx

theorem cleanC_bool (b : Bool) : CleanC (if b then TRUE else FALSE) := by
  cases b <;> (intro x hx; revert x; decide)

theorem splitComma_piece (r : Bytes) (hr : ∀ x ∈ r, x ≠ COMMA) :
    splitComma r = [r] ∧ ∀ tail, splitComma (r ++ COMMA :: tail) = r :: splitComma tail := by
  induction r with
  | nil =>
    refine ⟨rfl, fun tail => ?_⟩
    simp only [List.nil_append, splitComma]
    cases splitComma tail <;> rfl
  | cons b bs ih =>
    obtain ⟨h1, h2⟩ := ih (fun x hx => hr x (List.mem_cons_of_mem _ hx))
    have hb : b ≠ COMMA := hr b (List.mem_cons_self ..)
    exact ⟨by simp only [splitComma, h1, if_neg hb], fun tail => by simp only [List.cons_append, splitComma, h2, if_neg hb]⟩

theorem splitComma_pieces : ∀ (rs : List Bytes) (r : Bytes), (∀ x ∈ r :: rs, ∀ y ∈ x, y ≠ COMMA) →
    splitComma (r ++ rs.flatMap (COMMA :: ·)) = r :: rs
  | [], r, h => by simpa using (splitComma_piece r (h r (List.mem_cons_self ..))).1
  | r' :: rs, r, h => by
    rw [List.flatMap_cons, List.cons_append, (splitComma_piece r (h r (List.mem_cons_self ..))).2,
      splitComma_pieces rs r' (fun x hx => h x (List.mem_cons_of_mem _ hx))]

theorem splitComma_join : ∀ (rs : List Bytes) (r : Bytes), (∀ x ∈ r :: rs, CleanC x) →
    splitComma (joinSeq true (r :: rs)) = r :: rs := by
  intro rs r h
  simpa [joinSeq] using splitComma_pieces rs r (fun x hx y hy => (h x hx y hy).2.2)

theorem encVal_seq {vs : List Value} {r : Bytes} :
    encVal true (.seq vs) = .ok r ↔ ∃ rs, encVal.encVals true vs = .ok rs ∧ joinSeq true rs = r := by
  simp only [encVal, Except.bind_eq_ok, pure, Except.pure, Except.ok.injEq]

theorem encVals_cons {v : Value} {vs : List Value} {rs : List Bytes} :
    encVal.encVals true (v :: vs) = .ok rs ↔
      ∃ r, encVal true v = .ok r ∧ ∃ rs', encVal.encVals true vs = .ok rs' ∧ r :: rs' = rs := by
  simp only [encVal.encVals, Except.bind_eq_ok, pure, Except.pure, Except.ok.injEq]

/-- what a value of type `t` is and how it is written: one line per legal pair of type and value -/
inductive View (u : Bytes → Bool) : Ty → Value → Bytes → Prop
  | bool (b) : View u .bool (.bool b) (if b then TRUE else FALSE)
  | uint {bits z} : 0 ≤ z → z < 2 ^ bits → View u (.uint bits) (.int z) (showInt z)
  | sint {bits z} : -(2 ^ (bits - 1) : Int) ≤ z → z < 2 ^ (bits - 1) → View u (.sint bits) (.int z) (showInt z)
  | char {c} : c < 0xD800 ∨ (0xE000 ≤ c ∧ c < 0x110000) → View u .char (.char c) (Percent.encode (utf8Enc c))
  | string {s} : u s = true → View u .string (.str s) (Percent.encode s)
  | str {s} : u s = true → Percent.encode s = s → View u .str (.str s) (Percent.encode s)
  | variant {names n} : n ∈ names → u n = true → View u (.unitEnum names) (.variant n) (Percent.encode n)
  | none {t} : View u (.option t) .none []
  | unit : View u .unit .unit []
  | some {t v r} : wellTyped u t v = true → encVal true v = .ok r → View u (.option t) (.some v) r
  | newtype {t v r} : wellTyped u t v = true → encVal true v = .ok r → View u (.newtype t) (.newtype v) r
  | seq {t vs rs} : noSeq t = true → wellTyped.wtAll u t vs = true → encVal.encVals true vs = .ok rs →
      View u (.seq t) (.seq vs) (joinSeq true rs)

theorem view {u : Bytes → Bool} {v : Value} {t : Ty} {r : Bytes}
    (hw : wellTyped u t v = true) (he : encVal true v = .ok r) : View u t v r := by
  -- one bullet per row of `wellTyped`, in its order; the last is its catch-all
  unfold wellTyped at hw
  split at hw
  · cases he; exact .bool _
  · cases he
    simp only [Bool.and_eq_true, decide_eq_true_eq] at hw
    exact .uint hw.1 hw.2
  · cases he
    simp only [Bool.and_eq_true, decide_eq_true_eq] at hw
    exact .sint hw.1 hw.2
  · cases he; exact .char (by simpa using hw)
  · cases he; exact .string hw
  · cases he
    simp only [Bool.and_eq_true, beq_iff_eq] at hw
    exact .str hw.1 hw.2
  · cases he; exact .none
  · exact .some hw he
  · cases he; exact .unit
  · exact .newtype hw he
  · simp only [Bool.and_eq_true] at hw
    obtain ⟨rs, h1, rfl⟩ := encVal_seq.mp he
    exact .seq hw.1 hw.2 h1
  · nomatch he            -- a map or a struct in value position: the writer refuses it
  · nomatch he
  · cases he
    simp only [Bool.and_eq_true] at hw
    exact .variant (List.contains_iff_mem.mp hw.1) hw.2
  · nomatch hw

/-- the two halves of `enc_clean`, for a rendering that holds no `,` whatever its type -/
theorem CleanC.and_imp {r} (h : CleanC r) (p : Prop) : Clean r ∧ (p → CleanC r) := ⟨h.clean, fun _ => h⟩

/- no `,` in the rendering of a sequence element type (`noSeq`) is what lets `splitComma` find the elements again -/
mutual
theorem enc_clean (u : Bytes → Bool) (v : Value) (t : Ty) (r : Bytes)
    (hw : wellTyped u t v = true) (he : encVal true v = .ok r) : Clean r ∧ (noSeq t = true → CleanC r) := by
  cases view hw he with
  | bool b => exact (cleanC_bool b).and_imp _
  | uint _ _ | sint _ _ => exact (cleanC_showInt _).and_imp _
  | char _ | string _ | str _ _ | variant _ _ => exact (cleanC_encode _).and_imp _
  | none | unit => exact cleanC_nil.and_imp _
  | some hw' he' | newtype hw' he' => exact (enc_clean u _ _ _ hw' he' :)
  | seq hn hw' he' => exact ⟨clean_joinSeq _ (encs_clean u _ _ _ hn hw' he'), nofun⟩
theorem encs_clean (u : Bytes → Bool) : ∀ (vs : List Value) (t : Ty) (rs : List Bytes), noSeq t = true →
    wellTyped.wtAll u t vs = true → encVal.encVals true vs = .ok rs → ∀ r ∈ rs, CleanC r
  | [], _, _, _, _, rfl => nofun
  | v :: vs, t, rs, hn, hw, he => by
    simp only [wellTyped.wtAll, Bool.and_eq_true] at hw
    obtain ⟨r, h1, rs', h2, rfl⟩ := encVals_cons.mp he
    exact List.forall_mem_cons.mpr ⟨(enc_clean u v t r hw.1 h1).2 hn, encs_clean u vs t rs' hn hw.2 h2⟩
end

theorem cleanC_encVal (u : Bytes → Bool) : ∀ (v : Value) (t : Ty) (r : Bytes),
    wellTyped u t v = true → noSeq t = true → encVal true v = .ok r → CleanC r :=
  fun v t r hw hn he => (enc_clean u v t r hw he).2 hn

theorem cleanC_encVals (u : Bytes → Bool) (t : Ty) (hn : noSeq t = true) : ∀ (vs : List Value) (rs : List Bytes),
    wellTyped.wtAll u t vs = true → encVal.encVals true vs = .ok rs → ∀ r ∈ rs, CleanC r :=
  fun vs rs => encs_clean u vs t rs hn

/-- fuel that suffices to read a value back (`dec_val`): one unit per level of nesting and per sequence element -/
def sz : Value → Nat
  | .some v => sz v + 1
  | .newtype v => sz v + 1
  | .seq vs => szs vs + 2
  | _ => 1
where szs : List Value → Nat
  | [] => 0
  | v :: vs => sz v + 1 + szs vs

theorem sz_pos : ∀ v, 1 ≤ sz v := by
  intro v; cases v <;> simp [sz]

theorem fuel_succ {n fuel : Nat} (h : n + 1 ≤ fuel) : ∃ f, fuel = f + 1 ∧ n ≤ f :=
  ⟨fuel - 1, (Nat.sub_add_cancel (Nat.le_of_add_left_le h)).symm, Nat.le_sub_one_of_lt h⟩

theorem clean_head_ne_amp (r rest : Bytes) (h : Clean r) (hne : r.isEmpty = false) :
    ((r ++ rest).isEmpty || (r ++ rest).head? == some AMP) = false := by
  cases r with
  | nil => nomatch hne
  | cons b bs =>
    have := (h b (by simp)).1
    simp [this]

theorem stop_test (rest : Bytes) (hs : Stop rest) : (rest.isEmpty || rest.head? == some AMP) = true := by
  rcases hs with rfl | ⟨t, rfl⟩ <;> simp

/-- what the round trip needs of std: the text parsers invert the text writers -/
structure PrimsOK (P : Prims) : Prop where
  pct : ∀ s, P.percentDecode (Percent.encode s) = s
  intU : ∀ bits (z : Int), 0 ≤ z → z < 2 ^ bits → P.parseInt false bits (showInt z) = some z
  intS : ∀ bits (z : Int), -(2 ^ (bits - 1) : Int) ≤ z → z < 2 ^ (bits - 1) → P.parseInt true bits (showInt z) = some z
  intUtf8 : ∀ z, P.validUtf8 (showInt z) = true
  pctInt : ∀ z, P.percentDecode (showInt z) = showInt z            -- digits and the sign hold no escape
  pctBool : P.percentDecode TRUE = TRUE ∧ P.percentDecode FALSE = FALSE
  chr : ∀ c, (c < 0xD800 ∨ (0xE000 ≤ c ∧ c < 0x110000)) → P.validUtf8 (utf8Enc c) = true ∧ P.utf8Chars (utf8Enc c) = some [c]

variable (P : Prims) (hP : PrimsOK P)
include hP

/-- the integer readers see their section only through `percentDecode`; the printed number is one spelling among those
    that decode to it -/
theorem dec_int (sec rest : Bytes) (fuel bits : Nat) (z : Int) (hc : Clean sec) (hs : Stop rest)
    (hd : P.percentDecode sec = showInt z) :
    (0 ≤ z → z < 2 ^ bits → decode P false (fuel + 1) (.uint bits) ⟨sec ++ rest, .value⟩ = .ok (.int z, ⟨rest, .value⟩)) ∧
    (-(2 ^ (bits - 1) : Int) ≤ z → z < 2 ^ (bits - 1) → decode P false (fuel + 1) (.sint bits) ⟨sec ++ rest, .value⟩ = .ok (.int z, ⟨rest, .value⟩)) := by
  refine ⟨fun h0 h1 => ?_, fun h0 h1 => ?_⟩
  · simp only [decode, sectionOr_value _ _ rest hc hs, ok_bind, hd, hP.intUtf8, if_true, hP.intU _ z h0 h1, pure_eq]
  · simp only [decode, sectionOr_value _ _ rest hc hs, ok_bind, hd, hP.intUtf8, if_true, hP.intS _ z h0 h1, pure_eq]

mutual
theorem dec_val : ∀ (v : Value) (t : Ty) (r rest : Bytes) (fuel : Nat),
    wellTyped P.validUtf8 t v = true → unamb true v = true → encVal true v = .ok r → Stop rest → sz v ≤ fuel →
    decode P false fuel t ⟨r ++ rest, .value⟩ = .ok (v, ⟨rest, .value⟩) := by
  intro v t r rest fuel hw hu he hs hf
  obtain ⟨f, rfl, -⟩ := fuel_succ (Nat.le_trans (sz_pos v) hf)
  cases view hw he with
  | bool b =>
    simp only [decode, sectionOr_value _ _ rest (cleanC_bool b).clean hs, ok_bind]
    cases b
    · simp only [Bool.false_eq_true, if_false, hP.pctBool.2]; simp [TRUE, FALSE]
    · simp only [if_true, hP.pctBool.1]; simp
  | uint h0 h1 => exact (dec_int P hP _ rest f _ _ (cleanC_showInt _).clean hs (hP.pctInt _)).1 h0 h1
  | sint h0 h1 => exact (dec_int P hP _ rest f _ _ (cleanC_showInt _).clean hs (hP.pctInt _)).2 h0 h1
  | char hc =>
    simp only [decode, nextSection_value _ rest (cleanC_encode _).clean hs, ok_bind, hP.pct, (hP.chr _ hc).1, (hP.chr _ hc).2, if_true, pure_eq]
  | string hs8 => simp [decode, nextSection_value _ rest (cleanC_encode _).clean hs, decodeStr, hP.pct, hs8]
  | @str s hs8 hid =>
    have hcs : Clean s := hid ▸ (cleanC_encode s).clean
    have hd : P.percentDecode s = s := by have := hP.pct s; rwa [hid] at this
    simp [decode, hid, nextSection_value s rest hcs hs, decodeStr, hd, hs8]
  | variant hm hs8 => simp [decode, nextSection_value _ rest (cleanC_encode _).clean hs, decodeStr, hP.pct, hs8, hm]
  | none | unit => simp only [decode, List.nil_append, stop_test rest hs, if_true]
  | some hw' he' =>
    -- `unamb`: the rendering of the inner value is not empty, so the option reader does not answer `None`
    simp only [unamb, he', Bool.and_eq_true, Bool.not_eq_true'] at hu
    simp only [decode, clean_head_ne_amp _ rest (enc_clean _ _ _ _ hw' he').1 hu.1, Bool.false_eq_true, if_false]
    rw [dec_val _ _ _ rest f hw' hu.2 he' hs (by simp [sz] at hf; omega)]
    rfl
  | newtype hw' he' =>
    simp only [decode]
    rw [dec_val _ _ _ rest f hw' (by simpa [unamb] using hu) he' hs (by simp [sz] at hf; omega)]
    rfl
  | @seq t' vs rs hn hw' he' =>
    -- the section is the joined renderings; it is empty only for `[]` (one element renders non-empty, by `unamb`; two leave a `,`);
    -- otherwise `splitComma` finds the renderings again, none of them holding a `,`, and `dec_list` reads them one by one
    have hcc := encs_clean P.validUtf8 vs t' rs hn hw' he'
    simp only [unamb, Bool.and_eq_true] at hu
    simp only [decode, sectionOr_value _ _ rest (clean_joinSeq rs hcc) hs, ok_bind]
    cases vs with
    | nil => cases he'; simp [joinSeq]
    | cons v vs' =>
      obtain ⟨r1, h3, rs', h4, rfl⟩ := encVals_cons.mp he'
      have hne : (joinSeq true (r1 :: rs')).isEmpty = false := by
        cases vs' with
        | nil => cases h4; simpa [h3, joinSeq] using hu.1
        | cons _ _ => obtain ⟨_, _, _, _, rfl⟩ := encVals_cons.mp h4; simp [joinSeq]
      simp only [hne, Bool.false_eq_true, if_false]
      rw [splitComma_join rs' r1 hcc, dec_list (v :: vs') t' (r1 :: rs') [] f hw' hu.2 he' (by simp [sz] at hf; omega)]
      simp
termination_by structural v => v
theorem dec_list : ∀ (vs : List Value) (t : Ty) (rs : List Bytes) (acc : List Value) (fuel : Nat),
    wellTyped.wtAll P.validUtf8 t vs = true → unamb.unambs true vs = true → encVal.encVals true vs = .ok rs →
    sz.szs vs + 1 ≤ fuel →
    seqLoop P false fuel t rs acc = .ok (acc ++ vs)
  | _, _, _, _, 0, _, _, _, hf => nomatch hf
  | [], t, _, acc, f + 1, _, _, rfl, _ => by simp [seqLoop]
  | v :: vs, t, rs, acc, f + 1, hw, hu, he, hf => by
    simp only [wellTyped.wtAll, Bool.and_eq_true] at hw
    simp only [unamb.unambs, Bool.and_eq_true] at hu
    obtain ⟨r1, h1, rs', h2, rfl⟩ := encVals_cons.mp he
    have hv := dec_val v t r1 [] f hw.1 hu.1 h1 (Or.inl rfl) (by simp [sz.szs] at hf; omega)
    rw [List.append_nil] at hv
    simp only [seqLoop, hv, ok_bind]
    rw [dec_list vs t rs' (acc ++ [v]) f hw.2 hu.2 h2 (by simp [sz.szs] at hf; omega)]
    simp
termination_by structural vs => vs
end

end Ohkami.Serde
