import OhkamiModel.P.Serde
/-! Two facts about the `Except` monad that core does not state: when a bind, and when a `mapM`, succeeds; and the `simp` lemmas that
    walk through the reader's own monad, `Outcome`, and its repaired section handling. -/

theorem Except.bind_eq_ok {ε α β} {x : Except ε α} {f : α → Except ε β} {b : β} :
    (x >>= f) = .ok b ↔ ∃ a, x = .ok a ∧ f a = .ok b := by
  cases x <;> simp [bind, Except.bind]

theorem List.mapM_except_ok_iff {ε α β} (f : α → Except ε β) :
    ∀ l : List α, (∃ vs, l.mapM f = .ok vs) ↔ ∀ x ∈ l, ∃ v, f x = .ok v
  | [] => by simp [pure, Except.pure]
  | x :: l => by
    simp only [List.mapM_cons, Except.bind_eq_ok, pure, Except.pure, Except.ok.injEq, List.forall_mem_cons,
      ← mapM_except_ok_iff f l]
    exact ⟨fun ⟨_, v, hv, vs, hvs, _⟩ => ⟨⟨v, hv⟩, vs, hvs⟩, fun ⟨⟨v, hv⟩, vs, hvs⟩ => ⟨_, v, hv, vs, hvs, rfl⟩⟩

namespace Ohkami.Serde

@[simp] theorem ok_bind {α β} (a : α) (f : α → Outcome β) : (Outcome.ok a >>= f) = f a := rfl
@[simp] theorem pure_eq {α} (a : α) : (pure a : Outcome α) = .ok a := rfl

@[simp] theorem sectionOr_false (site : String) (d : De) : sectionOr false site d = nextSection d := by
  unfold sectionOr
  split <;> simp [*]

end Ohkami.Serde
