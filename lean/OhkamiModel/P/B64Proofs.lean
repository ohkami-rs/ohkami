import OhkamiModel.P.B64
/-! C13: the base64 model round-trips and is canonical. The alphabet enters through three evaluated facts only (no duplicate,
    64 characters, no pad among them); everything else is an argument about one quantum (three bytes, four sextets). -/
namespace Ohkami.B64

-- evaluated together: the kernel then spells out the string literal of the alphabet once
theorem alphabet_facts : alphabet.Nodup ∧ alphabet.length = 64 ∧ pad ∉ alphabet := by decide +kernel
theorem alphabet_nodup : alphabet.Nodup := alphabet_facts.1
theorem alphabet_length : alphabet.length = 64 := alphabet_facts.2.1
theorem pad_not_in : pad ∉ alphabet := alphabet_facts.2.2

theorem encChar_eq (n : Nat) (h : n < 64) : encChar n = alphabet[n]'(alphabet_length ▸ h) := by
  rw [encChar, List.getD_eq_getElem?_getD, List.getElem?_eq_getElem (alphabet_length ▸ h)]; rfl

theorem decChar_encChar (n : Nat) (h : n < 64) : decChar (encChar n) = some n := by
  rw [decChar, encChar_eq n h, alphabet_nodup.idxOf_getElem]; exact if_pos h

theorem encChar_ne_pad (n : Nat) (h : n < 64) : encChar n ≠ pad :=
  fun e => pad_not_in (e ▸ encChar_eq n h ▸ List.getElem_mem _)

theorem decChar_pad : decChar pad = none := by
  rw [decChar, List.idxOf_eq_length pad_not_in, alphabet_length]; rfl

theorem decChar_spec (c : UInt8) (n : Nat) (h : decChar c = some n) : n < 64 ∧ encChar n = c := by
  simp only [decChar] at h
  split at h
  · cases h
    next hi => exact ⟨hi, by rw [encChar_eq _ hi]; exact List.getElem_idxOf _⟩
  · cases h

theorem sextets_roundtrip (a b c n : Nat) (ha : a < 256) (hb : b < 256) (hc : c < 256) (hn : n = a * 65536 + b * 256 + c) :
    (n / 262144) * 4 + (n / 4096 % 64) / 16 = a ∧
    (n / 4096 % 64) % 16 * 16 + (n / 64 % 64) / 4 = b ∧
    (n / 64 % 64) % 4 * 64 + n % 64 = c ∧
    n / 262144 < 64 := by
  omega

theorem quantum_back (a b c d n : Nat) (ha : a < 64) (hb : b < 64) (hc : c < 64) (hd : d < 64)
    (hn : n = (a * 4 + b / 16) * 65536 + (b % 16 * 16 + c / 4) * 256 + (c % 4 * 64 + d)) :
    n / 262144 = a ∧ n / 4096 % 64 = b ∧ n / 64 % 64 = c ∧ n % 64 = d
      ∧ a * 4 + b / 16 < 256 ∧ b % 16 * 16 + c / 4 < 256 ∧ c % 4 * 64 + d < 256 := by
  omega

/-! The equations of `decode` in `bind` form, so that the proofs below only rewrite: a `simp` that unfolds `decode` around
    `encChar` terms makes the kernel evaluate the alphabet. -/
theorem decode_full (c0 c1 c2 c3 : UInt8) (rest : Bytes) (h2 : c2 ≠ pad) (h3 : c3 ≠ pad) :
    decode (c0 :: c1 :: c2 :: c3 :: rest) =
      (decChar c0).bind fun a => (decChar c1).bind fun b => (decChar c2).bind fun c => (decChar c3).bind fun d =>
        (decode rest).bind fun tl =>
          some ((a * 4 + b / 16).toUInt8 :: (b % 16 * 16 + c / 4).toUInt8 :: (c % 4 * 64 + d).toUInt8 :: tl) := by
  cases rest with
  | nil => simp [decode, h2, h3]
  | cons _ _ => simp [decode]

theorem decode_pad1 (c0 c1 c2 : UInt8) (h2 : c2 ≠ pad) :
    decode [c0, c1, c2, pad] = (decChar c0).bind fun a => (decChar c1).bind fun b => (decChar c2).bind fun c =>
      if c % 4 = 0 then some [(a * 4 + b / 16).toUInt8, (b % 16 * 16 + c / 4).toUInt8] else none := by
  simp [decode, h2]

theorem decode_pad2 (c0 c1 : UInt8) :
    decode [c0, c1, pad, pad] = (decChar c0).bind fun a => (decChar c1).bind fun b =>
      if b % 16 = 0 then some [(a * 4 + b / 16).toUInt8] else none := by
  simp [decode]

theorem toUInt8_toNat (a : UInt8) : a.toNat.toUInt8 = a := by
  cases a; simp [Nat.toUInt8, UInt8.toNat]

theorem decode_encode' (bs : Bytes) : decode (encode bs) = some bs := by
  have hl : ∀ m, m % 64 < 64 := fun m => Nat.mod_lt _ (by decide)
  fun_induction encode bs with
  | case1 a b c rest n ih =>
    have hn : n = a.toNat * 65536 + b.toNat * 256 + c.toNat := rfl
    obtain ⟨r1, r2, r3, r4⟩ := sextets_roundtrip a.toNat b.toNat c.toNat n a.toNat_lt b.toNat_lt c.toNat_lt hn
    rw [decode_full _ _ _ _ _ (encChar_ne_pad _ (hl _)) (encChar_ne_pad _ (hl _)), decChar_encChar _ r4,
      decChar_encChar _ (hl _), decChar_encChar _ (hl _), decChar_encChar _ (hl _), ih]
    simp only [Option.bind_some, r1, r2, r3, toUInt8_toNat]
  | case2 a b n =>
    -- the missing byte counts as 0, so the bits the canonical test looks at (`if_pos`) are zero
    have hn : n = a.toNat * 65536 + b.toNat * 256 + 0 := (Nat.add_zero _).symm
    obtain ⟨r1, r2, _, r4⟩ := sextets_roundtrip a.toNat b.toNat 0 n a.toNat_lt b.toNat_lt (by omega) hn
    rw [decode_pad1 _ _ _ (encChar_ne_pad _ (hl _)), decChar_encChar _ r4, decChar_encChar _ (hl _), decChar_encChar _ (hl _),
      Option.bind_some, Option.bind_some, Option.bind_some, if_pos (by omega), r1, r2, toUInt8_toNat, toUInt8_toNat]
  | case3 a n =>
    have hn : n = a.toNat * 65536 + 0 * 256 + 0 := by simp only [n, Nat.zero_mul, Nat.add_zero]
    obtain ⟨r1, _, _, r4⟩ := sextets_roundtrip a.toNat 0 0 n a.toNat_lt (by omega) (by omega) hn
    rw [decode_pad2, decChar_encChar _ r4, decChar_encChar _ (hl _), Option.bind_some, Option.bind_some, if_pos (by omega), r1,
      toUInt8_toNat]
  | case4 => rfl

theorem toNat_toUInt8 (n : Nat) (h : n < 256) : n.toUInt8.toNat = n := by
  simp [Nat.toUInt8, UInt8.toNat, UInt8.ofNat, Nat.mod_eq_of_lt h]

theorem u8a (a b : Nat) (ha : a < 64) (hb : b < 64) : (UInt8.ofNat a * 4 + UInt8.ofNat (b / 16)).toNat = a * 4 + b / 16 := by
  simp [UInt8.toNat_add, UInt8.toNat_mul, UInt8.toNat_ofNat]; omega
theorem u8b (b c : Nat) (hb : b < 64) (hc : c < 64) : (UInt8.ofNat (b % 16) * 16 + UInt8.ofNat (c / 4)).toNat = b % 16 * 16 + c / 4 := by
  simp [UInt8.toNat_add, UInt8.toNat_mul, UInt8.toNat_ofNat]; omega
theorem u8c (c d : Nat) (hc : c < 64) (hd : d < 64) : (UInt8.ofNat (c % 4) * 64 + UInt8.ofNat d).toNat = c % 4 * 64 + d := by
  simp [UInt8.toNat_add, UInt8.toNat_mul, UInt8.toNat_ofNat]; omega

/-- four characters that decode to sextets `a b c d` are what `encode` writes for the three bytes they spell -/
theorem encode_quantum {c0 c1 c2 c3 : UInt8} {a b c d : Nat} (h0 : decChar c0 = some a) (h1 : decChar c1 = some b)
    (h2 : decChar c2 = some c) (h3 : decChar c3 = some d) (tl : Bytes) :
    encode ((a * 4 + b / 16).toUInt8 :: (b % 16 * 16 + c / 4).toUInt8 :: (c % 4 * 64 + d).toUInt8 :: tl) =
      c0 :: c1 :: c2 :: c3 :: encode tl := by
  obtain ⟨ha, rfl⟩ := decChar_spec c0 a h0
  obtain ⟨hb, rfl⟩ := decChar_spec c1 b h1
  obtain ⟨hc, rfl⟩ := decChar_spec c2 c h2
  obtain ⟨hd, rfl⟩ := decChar_spec c3 d h3
  obtain ⟨e1, e2, e3, e4, hv1, hv2, hv3⟩ := quantum_back a b c d _ ha hb hc hd rfl
  rw [encode, toNat_toUInt8 _ hv1, toNat_toUInt8 _ hv2, toNat_toUInt8 _ hv3, e1, e2, e3, e4]

/-- canonical: a string that decodes is the encoding of what it decodes to -/
theorem encode_decode' (s bs : Bytes) (h : decode s = some bs) : s = encode bs := by
  fun_induction decode s generalizing bs with
  | case1 => cases h; rfl
  | case2 c0 c1 c2 c3 hpp =>
    -- `c0 c1 = =`: one byte; the canonical test `b % 16 = 0` says the four bits dropped are zero, so re-encoding gives `c1` back
    obtain ⟨rfl, rfl⟩ := hpp
    simp only [Option.bind_eq_bind, Option.bind_eq_some_iff] at h
    obtain ⟨a, h0, b, h1, h⟩ := h
    obtain ⟨ha, rfl⟩ := decChar_spec c0 a h0
    obtain ⟨hb, rfl⟩ := decChar_spec c1 b h1
    split at h
    next hz =>
      cases h
      obtain ⟨e1, e2, -, -, hv1, -⟩ := quantum_back a b 0 0 ((a * 4 + b / 16) * 65536) ha hb (by omega) (by omega) (by omega)
      rw [encode, toNat_toUInt8 _ hv1, e1, e2]
    next => cases h
  | case3 c0 c1 c2 hnpp =>
    -- `c0 c1 c2 =`: two bytes; likewise with `c % 4 = 0`
    simp only [Option.bind_eq_bind, Option.bind_eq_some_iff] at h
    obtain ⟨a, h0, b, h1, c, h2, h⟩ := h
    obtain ⟨ha, rfl⟩ := decChar_spec c0 a h0
    obtain ⟨hb, rfl⟩ := decChar_spec c1 b h1
    obtain ⟨hc, rfl⟩ := decChar_spec c2 c h2
    split at h
    next hz =>
      cases h
      obtain ⟨e1, e2, e3, -, hv1, hv2, -⟩ :=
        quantum_back a b c 0 ((a * 4 + b / 16) * 65536 + (b % 16 * 16 + c / 4) * 256) ha hb hc (by omega) (by omega)
      rw [encode, toNat_toUInt8 _ hv1, toNat_toUInt8 _ hv2, e1, e2, e3]
    next => cases h
  | case4 c0 c1 c2 c3 hnpp hnp =>
    simp only [Option.bind_eq_bind, Option.bind_eq_some_iff] at h
    obtain ⟨a, h0, b, h1, c, h2, d, h3, h⟩ := h
    cases h
    rw [encode_quantum h0 h1 h2 h3, encode]
  | case5 c0 c1 c2 c3 rest hrest ih =>
    simp only [Option.bind_eq_bind, Option.bind_eq_some_iff] at h
    obtain ⟨a, h0, b, h1, c, h2, d, h3, tl, ht, h⟩ := h
    cases h
    rw [encode_quantum h0 h1 h2 h3, ← ih tl ht]
  | case6 s h1 h2 h3 => cases h
end Ohkami.B64
