import OhkamiModel.P.FangsRoutes
/-! `TreeOK` (every child carries a pattern), `ND` (sibling patterns pairwise distinct) and
    `NoColonT` (`FangsLookup.lean`) each say that at every node the list of child patterns satisfies some `L`: `Every L`.
    Registration and mounting keep `Every L` when `L` admits a pattern that is not in the list yet (`PatsClosed`): they
    descend into the child of the pattern, or append a child where none matches. -/
namespace Ohkami.Fangs
open Ohkami

def pats (ks : List BN) : List (Option Seg) := ks.map BN.pat

mutual
def ND : BN → Prop
  | .mk _ _ _ ks => (pats ks).Nodup ∧ NDs ks
def NDs : List BN → Prop
  | [] => True
  | k :: ks => ND k ∧ NDs ks
end

theorem hasMatch_iff (ks : List BN) (s : Seg) : hasMatch ks s = true ↔ some s ∈ pats ks := by
  simp only [hasMatch, List.any_eq_true, matches_iff, pats, List.mem_map]

mutual
def Every (L : List (Option Seg) → Prop) : BN → Prop
  | .mk _ _ _ ks => L (pats ks) ∧ EveryKids L ks
def EveryKids (L : List (Option Seg) → Prop) : List BN → Prop
  | [] => True
  | k :: ks => Every L k ∧ EveryKids L ks
end

variable {L : List (Option Seg) → Prop} {Ok : Seg → Prop}

theorem everyKids_iff_forall : ∀ ks : List BN, EveryKids L ks ↔ ∀ k ∈ ks, Every L k
  | [] => by simp [EveryKids]
  | k :: ks => by simp [EveryKids, everyKids_iff_forall ks]

theorem everyKids_append (a b : List BN) : EveryKids L (a ++ b) ↔ EveryKids L a ∧ EveryKids L b := by
  simp only [everyKids_iff_forall, List.forall_mem_append]

theorem every_leaf (hnil : L []) {p : Option Seg} {f : List Nat} {h : Option Nat} : Every L (.mk p f h []) := ⟨hnil, trivial⟩

/-- what registration and mounting need of `L` to keep `Every L`; `Ok` is what the segments of the registered routes satisfy -/
structure PatsClosed (L : List (Option Seg) → Prop) (Ok : Seg → Prop) : Prop where
  nil : L []
  snoc : ∀ {l s}, L l → some s ∉ l → Ok s → L (l ++ [some s])
  of_mem : ∀ {l s}, L l → some s ∈ l → Ok s

theorem every_updKids (hL : PatsClosed L Ok) (g : BN → Option BN) (s : Seg) (hs : Ok s)
    (hpat : ∀ k k', g k = some k' → k'.pat = k.pat) (hg : ∀ k k', Every L k → g k = some k' → Every L k')
    (ks ks' : List BN) (hl : L (pats ks)) (hk : EveryKids L ks) (h : updKids g ks s = some ks') :
    L (pats ks') ∧ EveryKids L ks' := by
  rcases updKids_cases g s ks ks' h with ⟨pre, k, post, k', rfl, _, hgk, rfl⟩ | ⟨hno, k', hgk, rfl⟩
  · rw [everyKids_append] at hk ⊢
    refine ⟨?_, hk.1, hg k k' hk.2.1 hgk, hk.2.2⟩
    simpa [pats, hpat k k' hgk] using hl
  · rw [everyKids_append]
    refine ⟨?_, hk, hg _ k' (every_leaf hL.nil) hgk, trivial⟩
    have e : k'.pat = some s := hpat _ k' hgk
    simpa [pats, e] using hL.snoc hl (by simpa [pats] using hno) hs

mutual
theorem every_mergeParts (hL : PatsClosed L Ok) : ∀ (t a t' : BN), Every L t → Every L a → mergeParts t a = some t' → Every L t'
  | .mk p f h ks, .mk p' f' h' ks', t', ht, ha, hm => by
    simp only [mergeParts] at hm
    split at hm
    · cases hm
    · simp only [Option.map_eq_some_iff] at hm
      obtain ⟨ks2, hk2, rfl⟩ := hm
      exact every_mergeKids hL ks ks' ks2 ht.1 ht.2 (fun s hs => hL.of_mem ha.1 hs) ha.2 hk2
theorem every_mergeKids (hL : PatsClosed L Ok) : ∀ (ks cs ks' : List BN), L (pats ks) → EveryKids L ks →
    (∀ s, some s ∈ pats cs → Ok s) → EveryKids L cs → mergeKids ks cs = some ks' → L (pats ks') ∧ EveryKids L ks'
  | ks, [], ks', hl, hk, _, _, hm => by
    simp only [mergeKids, Option.some.injEq] at hm; subst hm; exact ⟨hl, hk⟩
  | ks, c :: cs, ks', hl, hk, hOk, hc, hm => by
    have hOk' : ∀ s, some s ∈ pats cs → Ok s := fun s hs => hOk s (by simp [pats] at hs ⊢; exact Or.inr hs)
    simp only [mergeKids] at hm
    split at hm
    · cases hm
    · rename_i s hs
      have hOks : Ok s := hOk s (by simp [pats, hs])
      split at hm
      · simp only [Option.bind_eq_some_iff] at hm
        obtain ⟨ks2, h2, h3⟩ := hm
        obtain ⟨hl2, hk2⟩ := every_updKids hL _ s hOks (fun k k' => mergeParts_pat k c k')
          (fun k k' hk' hm' => every_mergeParts hL k c k' hk' hc.1 hm') ks ks2 hl hk h2
        exact every_mergeKids hL ks2 cs ks' hl2 hk2 hOk' hc.2 h3
      · rename_i hno
        refine every_mergeKids hL (ks ++ [c]) cs ks' ?_ ((everyKids_append ks [c]).mpr ⟨hk, hc.1, trivial⟩) hOk' hc.2 hm
        have := hL.snoc hl (mt (hasMatch_iff ks s).mpr hno) hOks
        simpa [pats, hs] using this
end

theorem every_mergeAt (hL : PatsClosed L Ok) : ∀ (r : Route) (t sub t' : BN), (∀ s ∈ r, Ok s) → Every L t → Every L sub →
    mergeAt r t sub = some t' → Every L t'
  | [], t, sub, t', _, ht, hs, h => every_mergeParts hL t sub t' ht hs (by simpa only [mergeAt] using h)
  | s :: rest, .mk p f hh ks, sub, t', hr, ht, hs, h => by
    simp only [mergeAt, Option.map_eq_some_iff] at h
    obtain ⟨ks', hk, rfl⟩ := h
    exact every_updKids hL _ s (hr s (by simp)) (fun k k' => mergeAt_pat rest k sub k')
      (fun k k' hk' hm => every_mergeAt hL rest k sub k' (fun x hx => hr x (by simp [hx])) hk' hs hm) ks ks' ht.1 ht.2 hk

theorem applyKids_eq_map (id : Nat) : ∀ ks : List BN, applyKids id ks = ks.map (applyFangs id)
  | [] => rfl
  | k :: ks => by simp [applyKids, applyKids_eq_map id ks]

theorem pats_applyKids (id : Nat) (ks : List BN) : pats (applyKids id ks) = pats ks := by
  rw [applyKids_eq_map, pats, List.map_map]
  exact List.map_congr_left fun k _ => applyFangs_pat id k

mutual
theorem every_applyFangs (id : Nat) : ∀ t : BN, Every L t → Every L (applyFangs id t)
  | .mk _ _ _ ks, h => by
    rw [applyFangs, Every, pats_applyKids]
    exact ⟨h.1, everyKids_applyKids id ks h.2⟩
theorem everyKids_applyKids (id : Nat) : ∀ ks : List BN, EveryKids L ks → EveryKids L (applyKids id ks)
  | [], _ => trivial
  | k :: ks, h => ⟨every_applyFangs id k h.1, everyKids_applyKids id ks h.2⟩
end

/-- `TreeOK` as an invariant of the lists of child patterns -/
def OKL (l : List (Option Seg)) : Prop := ∀ o ∈ l, o.isSome

mutual
theorem nd_iff : ∀ t, ND t ↔ Every List.Nodup t
  | .mk _ _ _ ks => by rw [ND, Every, nds_iff ks]
theorem nds_iff : ∀ ks, NDs ks ↔ EveryKids List.Nodup ks
  | [] => by simp [NDs, EveryKids]
  | k :: ks => by rw [NDs, EveryKids, nd_iff k, nds_iff ks]
end

mutual
theorem treeOK_iff : ∀ t, TreeOK t ↔ Every OKL t
  | .mk _ _ _ ks => by rw [TreeOK, Every, kidsOK_iff ks]
theorem kidsOK_iff : ∀ ks, KidsOK ks ↔ OKL (pats ks) ∧ EveryKids OKL ks
  | [] => by simp [KidsOK, EveryKids, OKL, pats]
  | k :: ks => by
    rw [KidsOK, EveryKids, treeOK_iff k, kidsOK_iff ks]
    simp only [OKL, pats, List.map_cons, List.forall_mem_cons]
    exact ⟨fun ⟨a, b, c, d⟩ => ⟨⟨a, c⟩, b, d⟩, fun ⟨⟨a, c⟩, b, d⟩ => ⟨a, b, c, d⟩⟩
end

theorem nodup_closed : PatsClosed List.Nodup (fun _ => True) where
  nil := List.nodup_nil
  snoc hl hs _ := List.nodup_append.mpr ⟨hl, by simp, by
    intro a ha b hb e
    rw [List.mem_singleton.mp hb] at e
    exact hs (e ▸ ha)⟩
  of_mem _ _ := trivial

theorem okL_closed : PatsClosed OKL (fun _ => True) where
  nil := by simp [OKL]
  snoc hl _ _ := by
    intro o ho
    rcases List.mem_append.mp ho with ho | ho
    · exact hl o ho
    · rw [List.mem_singleton.mp ho]; rfl
  of_mem _ _ := trivial

theorem routes_mergeKids : ∀ (ks cs ks' : List BN), KidsOK ks → KidsOK cs → mergeKids ks cs = some ks' →
    (routesOfKidsBN ks').Perm (routesOfKidsBN ks ++ routesOfKidsBN cs) ∧ KidsOK ks' := by
  intro ks cs ks' hk hc h
  rw [kidsOK_iff] at hk hc ⊢
  exact ⟨perm_mergeKids ks cs ks' h, every_mergeKids okL_closed ks cs ks' hk.1 hk.2 (fun _ _ => trivial) hc.2 h⟩

theorem treeOK_mergeAt (r : Route) (t sub t' : BN) (ht : TreeOK t) (hs : TreeOK sub) (h : mergeAt r t sub = some t') :
    TreeOK t' := by
  rw [treeOK_iff] at ht hs ⊢
  exact every_mergeAt okL_closed r t sub t' (fun _ _ => trivial) ht hs h

theorem nd_mergeKids : ∀ (ks cs ks' : List BN), KidsOK ks → KidsOK cs → (pats ks).Nodup → NDs ks → NDs cs →
    mergeKids ks cs = some ks' → (pats ks').Nodup ∧ NDs ks' := by
  intro ks cs ks' _ _ hn hk hc h
  rw [nds_iff] at hk hc ⊢
  exact every_mergeKids nodup_closed ks cs ks' hn hk (fun _ _ => trivial) hc h

/-- **Registering a handler and mounting an application keep sibling patterns distinct everywhere in the trie**: whatever the
    parent already has under the mount point (since fix 8878fb7 the mounted tree is merged node by node). -/
theorem nd_mergeAt (r : Route) (t sub t' : BN) (ht : ND t) (hs : ND sub) (h : mergeAt r t sub = some t') : ND t' := by
  rw [nd_iff] at ht hs ⊢
  exact every_mergeAt nodup_closed r t sub t' (fun _ _ => trivial) ht hs h

theorem applyKids_props (id : Nat) : ∀ ks : List BN,
    routesOfKidsBN (applyKids id ks) = routesOfKidsBN ks ∧ (KidsOK ks → KidsOK (applyKids id ks)) := by
  intro ks
  refine ⟨routes_applyKids id ks, ?_⟩
  rw [kidsOK_iff, kidsOK_iff, pats_applyKids]
  exact fun h => ⟨h.1, everyKids_applyKids id ks h.2⟩

theorem applyKids_nd (id : Nat) : ∀ ks : List BN, pats (applyKids id ks) = pats ks ∧ (NDs ks → NDs (applyKids id ks)) :=
  fun ks => ⟨pats_applyKids id ks, by simpa only [nds_iff] using everyKids_applyKids id ks⟩

end Ohkami.Fangs
