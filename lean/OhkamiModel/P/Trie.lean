import OhkamiModel.P.Chain
namespace Ohkami

/-! Segment-level trie (router/base.rs `Node`), its routes, and the look-up that single-child compression
    + greedy descent compute (segment-level image of router/final.rs). -/

inductive BNode where
  | mk (pat : Seg) (handler : Option Nat) (kids : List BNode)
deriving Repr

namespace BNode
def pat : BNode → Seg | mk p _ _ => p
def handler : BNode → Option Nat | mk _ h _ => h
def kids : BNode → List BNode | mk _ _ k => k
end BNode

mutual
def routesOf : BNode → List (Route × Nat)
  | .mk _ h ks => (match h with | some x => [([], x)] | none => []) ++ routesOfKids ks
def routesOfKids : List BNode → List (Route × Nat)
  | [] => []
  | k :: ks => (routesOf k).map (fun rh => (k.pat :: rh.1, rh.2)) ++ routesOfKids ks
end

def findStatic : List BNode → Bytes → Option BNode
  | [], _ => none
  | k :: ks, s => if k.pat = .static s then some k else findStatic ks s

def findParam : List BNode → Option BNode
  | [] => none
  | k :: ks => if k.pat = .param then some k else findParam ks

-- forced chain below a static child: no handler, exactly one child, and that child is static
def followChain : Nat → BNode → List Bytes → Option (BNode × List Bytes)
  | 0, k, ss => some (k, ss)
  | fuel + 1, k, ss =>
    match k with
    | .mk _ none [.mk (.static c) h' ks'] =>
      (match ss with
       | s' :: ss' => if s' = c then followChain fuel (.mk (.static c) h' ks') ss' else none
       | [] => none)
    | _ => some (k, ss)

def lookupC : Nat → BNode → List Bytes → Option (Nat × List Bytes)
  | 0, _, _ => none
  | _ + 1, n, [] => n.handler.map fun h => (h, [])
  | fuel + 1, n, s :: ss =>
    let viaStatic : Option (BNode × List Bytes) :=
      if s ≠ [] then
        match findStatic n.kids s with
        | some k => followChain (ss.length + 1) k ss
        | none => none
      else none
    match viaStatic with
    | some (k', ss') => lookupC fuel k' ss'
    | none =>
      if s ≠ [] then
        match findParam n.kids with
        | some k => (lookupC fuel k ss).map fun (h, ps) => (h, s :: ps)
        | none => none
      else none

/-! invariant of tries built by registration -/
mutual
def TInv : BNode → Prop
  | .mk _ _ ks => KInv ks ∧ (ks.map BNode.pat).Nodup
def KInv : List BNode → Prop
  | [] => True
  | k :: ks => TInv k ∧ routesOf k ≠ [] ∧ k.pat ≠ .static [] ∧ KInv ks
end

-- example: the trie of `ex1`
def tAB : BNode := .mk .param none [.mk (.static [97]) none [.mk (.static [98]) (some 1) []], .mk .param none [.mk (.static [99]) (some 2) []]]
example : lookupC 5 tAB [[97], [99]] = some (2, [[97]]) := by decide
example : routesOf tAB = ex1 := by decide

end Ohkami
