import OhkamiModel.P.Live
import OhkamiModel.P.Listing
/-! The standard-header store (`IndexMap`): well-formedness of the slot table, what the store reads after each primitive, and the
    lines written as a listing of what it reads. -/
namespace Ohkami
open IndexMap

structure IndexMap.WF (m : IndexMap) (n : Nat) : Prop where
  len : m.index.length = n
  slot_ok : ∀ k p, m.slot k = some p → ∃ v, m.values[p]? = some (k, v)

theorem slot_set_self (m : IndexMap) (k : Nat) (x : Option Nat) (vs : List (Nat × Bytes)) (hk : k < m.index.length) :
    (⟨m.index.set k x, vs⟩ : IndexMap).slot k = x := by
  simp [IndexMap.slot, hk]

theorem slot_set_other (m : IndexMap) (k k' : Nat) (x : Option Nat) (vs : List (Nat × Bytes)) (h : k' ≠ k) :
    (⟨m.index.set k x, vs⟩ : IndexMap).slot k' = m.slot k' := by
  simp [IndexMap.slot, Ne.symm h]

theorem slot_values_irrel (idx : List (Option Nat)) (vs vs' : List (Nat × Bytes)) (k : Nat) :
    (⟨idx, vs⟩ : IndexMap).slot k = (⟨idx, vs'⟩ : IndexMap).slot k := rfl

theorem WF_new (n : Nat) : (IndexMap.new n).WF n := by
  constructor
  · simp [IndexMap.new]
  · intro k p h
    simp [IndexMap.new, IndexMap.slot, List.getElem?_replicate] at h
    split at h <;> simp at h

theorem slot_lt {m : IndexMap} {n : Nat} (hw : m.WF n) {k p : Nat} (h : m.slot k = some p) : p < m.values.length := by
  obtain ⟨v, hv⟩ := hw.slot_ok k p h
  exact (List.getElem?_eq_some_iff.mp hv).1

theorem slot_inj {m : IndexMap} {n : Nat} (hw : m.WF n) {k k' p : Nat} (h : m.slot k = some p) (h' : m.slot k' = some p) : k' = k := by
  obtain ⟨v, hv⟩ := hw.slot_ok k p h
  obtain ⟨v', hv'⟩ := hw.slot_ok k' p h'
  rw [hv] at hv'
  exact (Prod.mk.inj (Option.some.inj hv')).1.symm

theorem get_eq_some_iff {m : IndexMap} {n : Nat} (hw : m.WF n) (k : Nat) (v : Bytes) :
    m.get k = some v ↔ ∃ p, m.values[p]? = some (k, v) ∧ m.slot k = some p := by
  unfold IndexMap.get
  cases hs : m.slot k with
  | none => simp
  | some p =>
    obtain ⟨v', hv'⟩ := hw.slot_ok k p hs
    simp [hv', eq_comm]

/-- A store `m'` that differs from a well-formed `m` in the slot of `k` only, and in no value that the slot of another key points at,
    is well-formed if its slot of `k` is, and reads as `m` except at `k`.  `set`, `delete` and `update` are such stores. -/
theorem IndexMap.WF.point {m m' : IndexMap} {n : Nat} (hw : m.WF n) (k : Nat) (hlen : m'.index.length = n)
    (hs : ∀ k', k' ≠ k → m'.slot k' = m.slot k')
    (hv : ∀ k' p, k' ≠ k → m.slot k' = some p → m'.values[p]? = m.values[p]?)
    (hk : ∀ p, m'.slot k = some p → ∃ v, m'.values[p]? = some (k, v)) (x : Option Bytes) (hx : m'.get k = x) :
    m'.WF n ∧ ∀ k', m'.get k' = if k' = k then x else m.get k' := by
  refine ⟨⟨hlen, fun k' p h => ?_⟩, fun k' => ?_⟩
  · by_cases hne : k' = k
    · subst hne; exact hk p h
    · rw [hs k' hne] at h
      rw [hv k' p hne h]
      exact hw.slot_ok k' p h
  · by_cases hne : k' = k
    · rw [if_pos hne, hne, hx]
    · rw [if_neg hne, IndexMap.get, IndexMap.get, hs k' hne]
      cases h : m.slot k' with
      | none => rfl
      | some p => simp only [hv k' p hne h]

theorem set_spec (m : IndexMap) (n : Nat) (hw : m.WF n) (k : Nat) (hk : k < n) (v : Bytes) :
    (m.set k v).WF n ∧ ∀ k', (m.set k v).get k' = if k' = k then some v else m.get k' := by
  unfold IndexMap.set
  have hself := slot_set_self m k (some m.values.length) (m.values ++ [(k, v)]) (hw.len ▸ hk)
  refine hw.point k (by simp [hw.len]) (fun k' h => slot_set_other m k k' _ _ h)
    (fun k' p _ h => List.getElem?_append_left (slot_lt hw h)) (fun p h => ?_) _ ?_
  · rw [hself] at h; cases h; exact ⟨v, by simp⟩
  · simp [IndexMap.get, hself]

theorem delete_spec (m : IndexMap) (n : Nat) (hw : m.WF n) (k : Nat) :
    (m.delete k).WF n ∧ ∀ k', (m.delete k).get k' = if k' = k then none else m.get k' := by
  unfold IndexMap.delete
  have hself : (⟨m.index.set k none, m.values⟩ : IndexMap).slot k = none := by
    simp only [IndexMap.slot, List.getElem?_set_self']; cases m.index[k]? <;> rfl
  refine hw.point k (by simp [hw.len]) (fun k' h => slot_set_other m k k' _ _ h) (fun _ _ _ _ => rfl) (fun p h => ?_) _ ?_
  · rw [hself] at h; cases h
  · simp [IndexMap.get, hself]

theorem update_spec (m : IndexMap) (n : Nat) (hw : m.WF n) (k : Nat) (v old : Bytes) (hg : m.get k = some old) :
    (m.update k v).WF n ∧ ∀ k', (m.update k v).get k' = if k' = k then some v else m.get k' := by
  obtain ⟨p, _, hs⟩ := (get_eq_some_iff hw k old).mp hg
  have hp : (m.values.set p (k, v))[p]? = some (k, v) := List.getElem?_set_self (slot_lt hw hs)
  simp only [IndexMap.update, hs]
  refine hw.point (m' := ⟨m.index, m.values.set p (k, v)⟩) k hw.len (fun _ _ => rfl) (fun k' p' hne h => ?_)
    (fun p' (h : m.slot k = some p') => ?_) _ ?_
  · exact List.getElem?_set_ne fun e : p = p' => hne (slot_inj hw hs (e ▸ h))
  · rw [hs] at h; cases h; exact ⟨v, hp⟩
  · show (match m.slot k with | none => none | some p => _) = _
    simp only [hs, hp, Option.map_some]

theorem live_eq_iterFixed (m : IndexMap) : m.live = m.iterFixed := by
  have (vs : List (Nat × Bytes)) (q : Nat) : liveFrom m q vs =
      (vs.zipIdx q).filterMap fun (kv, p) => if m.slot kv.1 = some p then some kv else none := by
    induction vs generalizing q with
    | nil => rfl
    | cons kv vs ih => simp only [liveFrom, List.zipIdx_cons, List.filterMap_cons, ih]; split <;> simp [*]
  exact this m.values 0

theorem mem_live (m : IndexMap) (kv : Nat × Bytes) : kv ∈ m.live ↔ ∃ p, m.values[p]? = some kv ∧ m.slot kv.1 = some p := by
  simp only [live_eq_iterFixed, IndexMap.iterFixed, List.mem_filterMap, Prod.exists, List.mem_zipIdx_iff_getElem?]
  constructor
  · rintro ⟨a, b, p, hp, h⟩
    split at h
    · cases h; exact ⟨p, hp, ‹_›⟩
    · cases h
  · rintro ⟨p, hp, hs⟩
    exact ⟨kv.1, kv.2, p, hp, by simp [hs]⟩

theorem live_keys_nodup (m : IndexMap) : (m.live.map (·.1)).Nodup := by
  rw [live_eq_iterFixed, IndexMap.iterFixed, List.Nodup, List.pairwise_map]
  -- positions along `zipIdx` differ, and a live entry's position is the slot of its key
  have hpos : (m.values.zipIdx).Pairwise (fun a b => a.2 ≠ b.2) := by
    have := List.nodup_range' (s := 0) (n := m.values.length)
    rwa [← List.zipIdx_map_snd 0 m.values, List.Nodup, List.pairwise_map] at this
  refine hpos.filterMap _ fun ⟨kv, p⟩ ⟨kv', p'⟩ hne b hb b' hb' hk => ?_
  simp only [Option.ite_none_right_eq_some, Option.some.injEq] at hb hb'
  rw [← hb.2, ← hb'.2] at hk
  exact hne (Option.some.inj (hb.1.symm.trans (hk ▸ hb'.1)))

theorem lists_live (m : IndexMap) (n : Nat) (hw : m.WF n) : Lists m.live m.get :=
  ⟨fun k v => by rw [mem_live, get_eq_some_iff hw], live_keys_nodup m⟩

def sumLive (f : Nat × Bytes → Nat) (m : IndexMap) (q : Nat) (vs : List (Nat × Bytes)) : Nat :=
  ((liveFrom m q vs).map f).sum

def stdLen (f : Nat × Bytes → Nat) (m : IndexMap) : Nat := sumLive f m 0 m.values

/-- Two well-formed stores that read alike except at `k`.  `set`, `delete` and `update` each change the reading at one key
    (`set_spec`, `delete_spec`, `update_spec`), so what any of them does to the bytes written for the table is this statement. -/
theorem stdLen_pointUpdate (f : Nat × Bytes → Nat) {m m' : IndexMap} {n : Nat} (hw : m.WF n) (hw' : m'.WF n) (k : Nat)
    (hg : ∀ k', k' ≠ k → m'.get k' = m.get k') :
    stdLen f m' + cost f k (m.get k) = stdLen f m + cost f k (m'.get k) :=
  (lists_live m n hw).sum_pointUpdate f (lists_live m' n hw') k hg

theorem cost_le_stdLen (f : Nat × Bytes → Nat) {m : IndexMap} {n : Nat} (hw : m.WF n) (k : Nat) : cost f k (m.get k) ≤ stdLen f m :=
  (lists_live m n hw).cost_le f k

end Ohkami
