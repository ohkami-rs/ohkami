import OhkamiModel.P.ExceptLemmas
/-! C08 for the URL-encoded reader: with the repaired section handling (`unwrapSites = false`) no input and no
    target type can make the reader panic; it answers `ok`, `err`, or runs out of fuel (`unmodelled`).  The only crash site
    the model has is that one: `.panic` comes from `sectionOr` with `unwrapSites = true` alone, `.ub` from no arm. -/
namespace Ohkami.Serde

def NoCrash {α} : Outcome α → Prop
  | .panic _ => False
  | .ub _ => False
  | _ => True

@[simp] theorem noCrash_ok {α} (a : α) : NoCrash (Outcome.ok a) := trivial
@[simp] theorem noCrash_err {α} (e : ErrClass) : NoCrash (Outcome.err e : Outcome α) := trivial
@[simp] theorem noCrash_unmodelled {α} : NoCrash (Outcome.unmodelled : Outcome α) := trivial
@[simp] theorem noCrash_pure {α} (a : α) : NoCrash (pure a : Outcome α) := trivial

@[simp] theorem noCrash_bind {α β} (x : Outcome α) (f : α → Outcome β) :
    NoCrash (x >>= f) ↔ NoCrash x ∧ ∀ a, x = .ok a → NoCrash (f a) := by
  cases x <;> simp [bind, NoCrash]

@[simp] theorem noCrash_ite {α} (c : Prop) [Decidable c] (x y : Outcome α) :
    NoCrash (if c then x else y) ↔ (c → NoCrash x) ∧ (¬c → NoCrash y) := by
  split <;> simp [*]

@[simp] theorem noCrash_nextSection (d : De) : NoCrash (nextSection d) := by
  unfold nextSection
  split <;> simp

variable (P : Prims)

@[simp] theorem noCrash_decodeStr (b : Bool) (sec : Bytes) : NoCrash (decodeStr P b sec) := by
  simp [decodeStr]

/- `sectionOr_false` is the repair: every section read is `nextSection`, which cannot crash. `simp` with it and the lemmas
   above walks through `>>=` and `if`; what it leaves are the places where the reader matches on something it has just
   computed, and there `split` opens the match. -/
theorem decode_total (fuel : Nat) :
    (∀ ty d, NoCrash (decode P false fuel ty d)) ∧
    (∀ t es acc, NoCrash (seqLoop P false fuel t es acc)) ∧
    (∀ vt first acc d, NoCrash (mapLoop P false fuel vt first acc d)) ∧
    (∀ fields first acc d, NoCrash (structLoop P false fuel fields first acc d)) := by
  induction fuel with
  | zero => simp [decode, seqLoop, mapLoop, structLoop]
  | succ f ih =>
    refine ⟨fun ty d => ?_, fun t es acc => ?_, fun vt first acc d => ?_, fun fields first acc d => ?_⟩
    · cases ty <;> simp [decode, sectionOr_false, ih]
      case uint | sint | char => intro sec d' _; split <;> simp
      case unitEnum => intro sec d' _ v _; split <;> simp
      case ignored => split <;> simp
    · cases es <;> simp [seqLoop, ih]
    · simp [mapLoop, ih]
      intro _
      constructor
      · intro _; split <;> simp                   -- the `&` between pairs
      · intro d1 _ k d2 _; split <;> simp [ih]    -- the `=` after the key
    · simp [structLoop]
      constructor
      · intro _; split <;> simp                   -- end of input: `fillMissing`
      · intro _
        constructor
        · intro _; split <;> simp                 -- the `&` between pairs
        · intro d1 _ ksec d2 _ _
          split <;> simp                          -- the `=` after the key
          intro _
          split <;> simp [ih]                     -- a known field, or one to skip

/-- **C08 (URL-encoded reader).** For every input, target type and amount of fuel the repaired reader does not panic:
    it answers `ok`, `err`, or runs out of fuel. -/
theorem from_bytes_total (fuel : Nat) (ty : Ty) (input : Bytes) :
    NoCrash (decode P false fuel ty ⟨input, .key⟩) := (decode_total P fuel).1 ty _

-- with `unwrapSites = true` (`next_section().unwrap()`) the reader panics: an `=` inside a value read as an integer
-- (`a=1=2`), site `deserialize_uN`
example : decode ⟨id, fun _ => true, fun _ _ _ => none, fun _ => false, fun _ => none⟩ true 10
    (.struct [([97], .uint 32, false)]) ⟨[97, 61, 49, 61, 50], .key⟩ = .panic "deserialize_uN" := by rfl

end Ohkami.Serde
