import OhkamiModel.P.Chain
import OhkamiModel.P.RouterProofs
/-! `greedyChain` answers only with a matching, most-static route.  The conclusion is the predicate `Hit`; it lifts
    through a static step, through a param step when nothing matches statically, and hence through a whole chain
    match, every link of which is a static step. -/
namespace Ohkami

def WFRoutes (rs : List (Route × Nat)) : Prop := ∀ rh ∈ rs, Seg.static [] ∉ rh.1

theorem WFRoutes_step {rs : List (Route × Nat)} (h : WFRoutes rs) (x : Seg) : WFRoutes (step x rs) := by
  intro ⟨t, a⟩ hm hc
  exact h _ (mem_step.mp hm) (List.mem_cons_of_mem _ hc)

theorem WFRoutes_stepStatic {rs : List (Route × Nat)} (h : WFRoutes rs) (s : Bytes) : WFRoutes (stepStatic rs s) := by
  rw [stepStatic_eq]; exact WFRoutes_step h _

theorem WFRoutes_stepParam {rs : List (Route × Nat)} (h : WFRoutes rs) : WFRoutes (stepParam rs) := by
  rw [stepParam_eq]; exact WFRoutes_step h _

theorem greedyChain_cons (f : Nat) (rs : List (Route × Nat)) (s : Bytes) (ss : List Bytes) :
    greedyChain (f + 1) rs (s :: ss) =
      match (if s ≠ [] ∧ stepStatic rs s ≠ [] then chainMatch (ss.length + 1) (stepStatic rs s) ss else none) with
      | some (rs', ss') => greedyChain f rs' ss'
      | none =>
        if s ≠ [] ∧ stepParam rs ≠ [] then
          (greedyChain f (stepParam rs) ss).map fun (h, ps) => (h, s :: ps)
        else none := by
  rfl

theorem forcedNext_iff {rs : List (Route × Nat)} {c : Bytes} :
    forcedNext rs = some c ↔ rs ≠ [] ∧ ∀ rh ∈ rs, ∃ t, rh.1 = .static c :: t := by
  match rs with
  | [] => simp [forcedNext]
  | ([], _) :: _ => simp [forcedNext]
  | (.param :: _, _) :: _ => simp [forcedNext]
  | (.static c0 :: t0, h0) :: rest =>
    simp only [forcedNext]
    constructor
    · intro h
      split at h
      · next hall =>
        cases h
        refine ⟨by simp, fun rh hm => ?_⟩
        have := List.all_eq_true.mp hall rh hm
        split at this
        · next c' t' heq => exact ⟨t', by rw [heq, eq_of_beq this]⟩
        · cases this
      · cases h
    · intro ⟨_, hall⟩
      obtain ⟨t, ht⟩ := hall _ (List.mem_cons_self ..)
      cases ht
      rw [if_pos]
      exact List.all_eq_true.mpr fun rh hm => by obtain ⟨t, ht⟩ := hall rh hm; rw [ht]; simp

theorem forcedNext_spec {rs : List (Route × Nat)} {c : Bytes} (h : forcedNext rs = some c) :
    ∀ rh ∈ rs, ∃ t, rh.1 = .static c :: t :=
  (forcedNext_iff.mp h).2

/-- every route goes on with the forced segment, the path does not -/
theorem chainMatch_none (fuel : Nat) (rs : List (Route × Nat)) (ss : List Bytes) (h : chainMatch fuel rs ss = none)
    (t : Route) (a : Nat) (ps : List Bytes) (hm : (t, a) ∈ rs) : ¬ Matches t ss ps := by
  intro hM
  fun_induction chainMatch fuel rs ss generalizing t with
  | case1 | case2 => cases h
  | case3 f rs c ss' hf ih =>
    obtain ⟨t', ht'⟩ := forcedNext_spec hf _ hm
    cases ht'
    cases hM with
    | static _ _ hM' => exact ih h t' (mem_stepStatic.mpr hm) hM'
  | case4 f rs c hf s' ss' hne =>
    obtain ⟨t', ht'⟩ := forcedNext_spec hf _ hm
    cases ht'
    cases hM with
    | static _ _ _ => exact hne rfl
  | case5 f rs c hf =>
    obtain ⟨t', ht'⟩ := forcedNext_spec hf _ hm
    cases ht'
    cases hM

/-- `h` with params `ps` is a right answer of table `rs` for path `segs`: the handler of a matching route that is
    most static among the matching ones -/
def Hit (rs : List (Route × Nat)) (segs : List Bytes) (h : Nat) (ps : List Bytes) : Prop :=
  ∃ r, (r, h) ∈ rs ∧ Matches r segs ps ∧ ∀ r' h' ps', (r', h') ∈ rs → Matches r' segs ps' → MoreStatic r r'

theorem Hit.static {rs : List (Route × Nat)} {s : Bytes} {ss : List Bytes} {h : Nat} {ps : List Bytes}
    (hs : s ≠ []) (hit : Hit (stepStatic rs s) ss h ps) : Hit rs (s :: ss) h ps := by
  obtain ⟨r, hm, hM, hbest⟩ := hit
  refine ⟨.static s :: r, mem_stepStatic.mp hm, .static s hs hM, ?_⟩
  intro r' h' ps' hm' hM'
  cases hM' with
  | static _ _ hMt => exact .static s _ _ (hbest _ h' ps' (mem_stepStatic.mpr hm') hMt)
  | param _ _ _ => exact .here _ _ _

theorem Hit.param {rs : List (Route × Nat)} {s : Bytes} {ss : List Bytes} {h : Nat} {ps : List Bytes}
    (hs : s ≠ []) (hno : ∀ t h' ps', (t, h') ∈ stepStatic rs s → ¬ Matches t ss ps')
    (hit : Hit (stepParam rs) ss h ps) : Hit rs (s :: ss) h (s :: ps) := by
  obtain ⟨r, hm, hM, hbest⟩ := hit
  refine ⟨.param :: r, mem_stepParam.mp hm, .param s hs hM, ?_⟩
  intro r' h' ps' hm' hM'
  cases hM' with
  | static _ _ hMt => exact absurd hMt (hno _ h' _ (mem_stepStatic.mpr hm'))
  | param _ _ hMt => exact .param _ _ (hbest _ h' _ (mem_stepParam.mpr hm') hMt)

theorem chainMatch_preserves {I : List (Route × Nat) → Prop} (hI : ∀ rs c, I rs → I (stepStatic rs c))
    (fuel : Nat) (rs : List (Route × Nat)) (ss : List Bytes) (rs' : List (Route × Nat)) (ss' : List Bytes)
    (h : chainMatch fuel rs ss = some (rs', ss')) (hi : I rs) : I rs' := by
  fun_induction chainMatch fuel rs ss with
  | case1 | case2 => cases h; exact hi
  | case3 f rs c ss'' hf ih => exact ih h (hI _ _ hi)
  | case4 | case5 => cases h

theorem Hit.chain (fuel : Nat) {rs rs' : List (Route × Nat)} {ss ss' : List Bytes} {h : Nat} {ps : List Bytes}
    (hwf : WFRoutes rs) (hc : chainMatch fuel rs ss = some (rs', ss')) (hit : Hit rs' ss' h ps) : Hit rs ss h ps := by
  fun_induction chainMatch fuel rs ss with
  | case1 | case2 => cases hc; exact hit
  | case3 f rs c ss'' hf ih =>
    have hit1 := ih (WFRoutes_stepStatic hwf c) hc
    obtain ⟨r, hm, _⟩ := id hit1
    -- the forced segment is not empty: it heads a route of the well-formed table
    exact Hit.static (fun e => hwf _ (mem_stepStatic.mp hm) (by simp [e])) hit1
  | case4 | case5 => cases hc

theorem chain_hit_sound (fuel : Nat) (rs : List (Route × Nat)) (segs : List Bytes) (h : Nat) (ps : List Bytes)
    (hwf : WFRoutes rs) (hg : greedyChain fuel rs segs = some (h, ps)) : Hit rs segs h ps := by
  fun_induction greedyChain fuel rs segs generalizing h ps with
  | case1 => cases hg
  | case2 f rs =>
    simp only [Option.map_eq_some_iff] at hg
    obtain ⟨⟨r, h0⟩, hfind, heq⟩ := hg
    cases heq
    obtain rfl : r = [] := by simpa using List.find?_some hfind
    exact ⟨[], List.mem_of_find?_eq_some hfind, .nil, fun r' h' ps' _ hM => by cases hM; exact .refl _⟩
  | case3 f rs s ss via rs' ss' hvia ih =>
    simp only [via] at hvia
    split at hvia
    · next hc =>
      have hwf1 := WFRoutes_stepStatic hwf s
      have hwf' : WFRoutes rs' := chainMatch_preserves (I := WFRoutes) (fun _ c h => WFRoutes_stepStatic h c) _ _ _ _ _ hvia hwf1
      exact Hit.static hc.1 (Hit.chain _ hwf1 hvia (ih h ps hwf' hg))
    · cases hvia
  | case4 f rs s ss via hvia hp ih =>
    simp only [Option.map_eq_some_iff] at hg
    obtain ⟨⟨h0, ps0⟩, hg0, heq⟩ := hg
    cases heq
    refine Hit.param hp.1 (fun t h' ps' hm hM => ?_) (ih h0 ps0 (WFRoutes_stepParam hwf) hg0)
    -- a route through the static step would have been tried: the chain match fails only where nothing matches
    simp only [via, hp.1, List.ne_nil_of_mem hm, ne_eq, not_false_eq_true, and_self, if_true] at hvia
    exact chainMatch_none _ _ _ hvia t h' ps' hm hM
  | case5 => cases hg

end Ohkami
