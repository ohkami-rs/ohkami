import OhkamiModel.P.B64Proofs
/-! C13: `BasicAuth::fore` admits exactly `Basic ` + base64(`user:password`) of a configured pair. -/
namespace Ohkami.BasicAuth
open Ohkami.B64

theorem splitOnce_spec (c : UInt8) : ∀ (bs l r : Bytes), splitOnce c bs = some (l, r) → bs = l ++ [c] ++ r ∧ c ∉ l
  | b :: bs, l, r, h => by
    rw [splitOnce] at h
    split at h
    next hb => cases h; simp [hb]
    next hb =>
      obtain ⟨⟨l', r'⟩, hs, h⟩ := Option.map_eq_some_iff.mp h
      obtain ⟨rfl, rfl⟩ := Prod.mk.inj h
      obtain ⟨h1, h2⟩ := splitOnce_spec c bs l' r' hs
      exact ⟨by simp [h1], by simp [Ne.symm hb, h2]⟩

theorem splitOnce_first (c : UInt8) : ∀ (l r : Bytes), c ∉ l → splitOnce c (l ++ [c] ++ r) = some (l, r)
  | [], r, _ => by simp [splitOnce]
  | a :: l, r, h => by
    rw [List.mem_cons, not_or] at h
    have := splitOnce_first c l r h.2
    simp only [List.append_assoc, List.cons_append, List.nil_append] at this ⊢
    simp [splitOnce, Ne.symm h.1, this]

/-- C13: the handler runs iff the header is `Basic ` followed by the base64 of `user:password` of a configured pair -/
theorem admit_iff' (validUtf8 : Bytes → Bool) (pairs : List Pair)
    (hu : ∀ pr ∈ pairs, colon ∉ pr.user) (hv : ∀ pr ∈ pairs, validUtf8 (pr.user ++ [colon] ++ pr.pass) = true)
    (auth : Option Bytes) :
    fore validUtf8 pairs auth = .admit ↔
      ∃ pr ∈ pairs, auth = some (basicPrefix ++ encode (pr.user ++ [colon] ++ pr.pass)) := by
  constructor
  · -- one case per way through `fore`; only one of them admits
    fun_cases fore validUtf8 pairs auth
    case case5 v hp cred hd _ u p hs hany =>
      obtain ⟨pr, hm, hpr⟩ : ∃ pr ∈ pairs, pr.user = u ∧ pr.pass = p := by simpa using hany
      refine fun _ => ⟨pr, hm, ?_⟩
      rw [← List.prefix_iff_eq_append.mp (List.isPrefixOf_iff_prefix.mp hp), encode_decode' _ _ hd,
        (splitOnce_spec colon cred _ _ hs).1, hpr.1, hpr.2]
    all_goals exact fun h => nomatch h
  · -- `fore` run on the canonical header; `hu`: the user holds no colon, so the first colon is the separator
    rintro ⟨pr, hm, rfl⟩
    have hany : pairs.any (fun q => decide (q.user = pr.user ∧ q.pass = pr.pass)) = true := List.any_eq_true.mpr ⟨pr, hm, by simp⟩
    simp only [fore, List.isPrefixOf_iff_prefix.mpr (List.prefix_append ..), if_true, List.drop_left, decode_encode', hv pr hm,
      Bool.not_true, Bool.false_eq_true, if_false, splitOnce_first colon pr.user pr.pass (hu pr hm), hany]
end Ohkami.BasicAuth
