import OhkamiModel.P.Fangs
/-! C01/C04 glue: the routes of a trie after `register` / mounting are the routes before plus the new ones
    (as multisets): registration and `By` mounts neither lose nor invent a route. -/
namespace Ohkami.Fangs
open Ohkami

mutual
def routesOfBN : BN → List (Route × Nat)
  | .mk _ _ h ks => (match h with | some x => [([], x)] | none => []) ++ routesOfKidsBN ks
def routesOfKidsBN : List BN → List (Route × Nat)
  | [] => []
  | k :: ks => (match k.pat with
      | some s => (routesOfBN k).map (fun rh => (s :: rh.1, rh.2))
      | none => routesOfBN k) ++ routesOfKidsBN ks
end

def under (r : Route) (l : List (Route × Nat)) : List (Route × Nat) := l.map fun rh => (r ++ rh.1, rh.2)

-- every child of a well-formed trie carries a pattern (only roots have none)
mutual
def TreeOK : BN → Prop
  | .mk _ _ _ ks => KidsOK ks
def KidsOK : List BN → Prop
  | [] => True
  | k :: ks => k.pat.isSome ∧ TreeOK k ∧ KidsOK ks
end

theorem patMatches_iff (a b : Seg) : patMatches a b = true ↔ a = b := by
  cases a <;> cases b <;> simp [patMatches]

/-- the test `updKids` and `hasMatch` apply to a child -/
theorem matches_iff (k : BN) (s : Seg) : (k.pat.map (patMatches · s)).getD false = true ↔ k.pat = some s := by
  cases hp : k.pat with
  | none => simp
  | some p => simp [patMatches_iff]

/-- a child of pattern `s` is replaced in place by what `g` makes of it, or no child has the pattern and what `g` makes of a fresh
    empty node is appended -/
theorem updKids_cases (g : BN → Option BN) (s : Seg) : ∀ ks ks', updKids g ks s = some ks' →
    (∃ pre k post k', ks = pre ++ k :: post ∧ k.pat = some s ∧ g k = some k' ∧ ks' = pre ++ k' :: post)
    ∨ ((∀ x ∈ ks, x.pat ≠ some s) ∧ ∃ k', g (.mk (some s) [] none []) = some k' ∧ ks' = ks ++ [k']) := by
  intro ks
  fun_induction updKids g ks s <;> simp only [Option.map_eq_some_iff, matches_iff] at *
  case case1 =>
    rintro _ ⟨k', hk', rfl⟩
    exact .inr ⟨by simp, k', hk', rfl⟩
  case case2 k ks s hm =>
    rintro _ ⟨k', hk', rfl⟩
    exact .inl ⟨[], k, ks, k', rfl, hm, hk', rfl⟩
  case case3 k ks s ih hm =>
    rintro _ ⟨ks2, hks2, rfl⟩
    rcases ih ks2 hks2 with ⟨pre, k0, post, k', rfl, e2, e4, rfl⟩ | ⟨e1, k', e2, rfl⟩
    · exact .inl ⟨k :: pre, k0, post, k', rfl, e2, e4, rfl⟩
    · exact .inr ⟨by simpa [hm] using e1, k', e2, rfl⟩

theorem updKids_forall {J : BN → Prop} (g : BN → Option BN) (s : Seg) (ks ks' : List BN) (h : updKids g ks s = some ks')
    (hks : ∀ k ∈ ks, J k) (hfresh : J (.mk (some s) [] none []))
    (hg : ∀ k k', k.pat = some s → J k → g k = some k' → J k') : ∀ k ∈ ks', J k := by
  rcases updKids_cases g s ks ks' h with ⟨pre, k, post, k', rfl, hp, hgk, rfl⟩ | ⟨_, k', hgk, rfl⟩
  · rw [List.forall_mem_append, List.forall_mem_cons] at hks ⊢
    exact ⟨hks.1, hg k k' hp hks.2.1 hgk, hks.2.2⟩
  · rw [List.forall_mem_append, List.forall_mem_singleton]
    exact ⟨hks, hg _ k' rfl hfresh hgk⟩

theorem routesOfKids_eq : ∀ ks : List BN, routesOfKidsBN ks = ks.flatMap fun k => under k.pat.toList (routesOfBN k)
  | [] => rfl
  | k :: ks => by
    rw [routesOfKidsBN, routesOfKids_eq ks, List.flatMap_cons]
    cases k.pat <;> simp [under]

theorem mem_routesOfKids (ks : List BN) (r : Route) (x : Nat) :
    (r, x) ∈ routesOfKidsBN ks ↔ ∃ k ∈ ks, ∃ r', r = k.pat.toList ++ r' ∧ (r', x) ∈ routesOfBN k := by
  simp only [routesOfKids_eq, List.mem_flatMap, under, List.mem_map, Prod.mk.injEq, Prod.exists]
  constructor
  · rintro ⟨k, hk, r', x', hm, rfl, rfl⟩; exact ⟨k, hk, r', rfl, hm⟩
  · rintro ⟨k, hk, r', rfl, hm⟩; exact ⟨k, hk, r', x, hm, rfl, rfl⟩

theorem mem_routesOfBN (p : Option Seg) (f : List Nat) (h : Option Nat) (ks : List BN) (r : Route) (x : Nat) :
    (r, x) ∈ routesOfBN (.mk p f h ks) ↔ (r = [] ∧ h = some x) ∨ (r, x) ∈ routesOfKidsBN ks := by
  cases h <;> simp [routesOfBN, eq_comm]

theorem routesOfKids_append (a b : List BN) : routesOfKidsBN (a ++ b) = routesOfKidsBN a ++ routesOfKidsBN b := by
  simp only [routesOfKids_eq, List.flatMap_append]

theorem routesOfKids_cons (k : BN) (s : Seg) (ks : List BN) (hp : k.pat = some s) :
    routesOfKidsBN (k :: ks) = under [s] (routesOfBN k) ++ routesOfKidsBN ks := by
  simp only [routesOfKids_eq, List.flatMap_cons, hp, Option.toList]

theorem under_append (r : Route) (a b : List (Route × Nat)) : under r (a ++ b) = under r a ++ under r b := by
  simp [under]

theorem under_nil (l : List (Route × Nat)) : under [] l = l := by simp [under]
theorem under_cons (s : Seg) (r : Route) (l : List (Route × Nat)) : under [s] (under r l) = under (s :: r) l := by
  simp [under]

theorem perm_under (r : Route) {l l' : List (Route × Nat)} (h : l.Perm l') : (under r l).Perm (under r l') := h.map _

theorem perm_updKids (g : BN → Option BN) (s : Seg) (add : List (Route × Nat))
    (hg : ∀ k k', k.pat = some s → g k = some k' → k'.pat = some s ∧ (routesOfBN k').Perm (routesOfBN k ++ add))
    (ks ks' : List BN) (h : updKids g ks s = some ks') :
    (routesOfKidsBN ks').Perm (routesOfKidsBN ks ++ under [s] add) := by
  rcases updKids_cases g s ks ks' h with ⟨pre, k, post, k', rfl, hp, hgk, rfl⟩ | ⟨_, k', hgk, rfl⟩
  · -- the child of pattern `s` is replaced in place: its routes gain `add`, which then moves to the end past `post`
    obtain ⟨hp', hperm⟩ := hg k k' hp hgk
    rw [routesOfKids_append, routesOfKids_append, routesOfKids_cons k s post hp, routesOfKids_cons k' s post hp']
    have h1 := perm_under [s] hperm
    rw [under_append] at h1
    refine ((h1.append_right _).append_left _).trans ?_
    simp only [List.append_assoc]
    exact (List.perm_append_comm.append_left _).append_left _
  · -- a fresh child is appended: it had no route, so it brings `add` alone
    obtain ⟨hp', hperm⟩ := hg _ k' rfl hgk
    rw [routesOfKids_append, routesOfKids_cons k' s [] hp']
    simpa [routesOfBN, routesOfKidsBN, under] using (perm_under [s] hperm).append_left (routesOfKidsBN ks)

mutual
theorem perm_mergeParts : ∀ (t a t' : BN), mergeParts t a = some t' →
    t'.pat = t.pat ∧ (routesOfBN t').Perm (routesOfBN t ++ routesOfBN a)
  | .mk p f h ks, .mk p' f' h' ks', t', hm => by
    simp only [mergeParts] at hm
    split at hm
    · cases hm
    · simp only [Option.map_eq_some_iff] at hm
      obtain ⟨ks2, hk2, rfl⟩ := hm
      have hp := perm_mergeKids ks ks' ks2 hk2
      refine ⟨rfl, ?_⟩
      simp only [routesOfBN]
      -- with a handler taken over from `a` alone, its route `([], x)` comes first on the left and after the routes of `ks` on the right
      cases h <;> cases h' <;> simp_all
      · exact (List.Perm.cons _ hp).trans List.perm_middle.symm
theorem perm_mergeKids : ∀ (ks cs ks' : List BN), mergeKids ks cs = some ks' →
    (routesOfKidsBN ks').Perm (routesOfKidsBN ks ++ routesOfKidsBN cs)
  | ks, [], ks', hm => by
    simp only [mergeKids, Option.some.injEq] at hm; subst hm; simp [routesOfKidsBN]
  | ks, c :: cs, ks', hm => by
    simp only [mergeKids] at hm
    split at hm
    · cases hm
    · rename_i s hs
      rw [routesOfKids_cons c s cs hs, ← List.append_assoc]
      -- `c` is merged into the child of its pattern `s`, or appended where there is none; then the rest of `cs`
      split at hm
      · simp only [Option.bind_eq_some_iff] at hm
        obtain ⟨ks2, h2, h3⟩ := hm
        have hp2 := perm_updKids (fun k => mergeParts k c) s _
          (fun k k' hp hm' => (perm_mergeParts k c k' hm').imp_left (·.trans hp)) ks ks2 h2
        exact (perm_mergeKids ks2 cs ks' h3).trans (hp2.append_right _)
      · refine (perm_mergeKids (ks ++ [c]) cs ks' hm).trans ?_
        rw [routesOfKids_append, routesOfKids_cons c s [] hs]
        simp [routesOfKidsBN]
end

/-- **Registration and mounting keep the route table**: merging the tree `sub` of a mounted application (or the one-node
    tree of a single handler) at the route `r` adds exactly the routes of `sub` prefixed by `r`. -/
theorem perm_mergeAt : ∀ (r : Route) (t sub t' : BN), mergeAt r t sub = some t' →
    t'.pat = t.pat ∧ (routesOfBN t').Perm (routesOfBN t ++ under r (routesOfBN sub))
  | [], t, sub, t', h => by
    simp only [mergeAt] at h
    simpa [under_nil] using perm_mergeParts t sub t' h
  | s :: rest, .mk p f hh ks, sub, t', h => by
    simp only [mergeAt, Option.map_eq_some_iff] at h
    obtain ⟨ks', hks', rfl⟩ := h
    have hperm := perm_updKids (fun k => mergeAt rest k sub) s _
      (fun k k' hp hm => (perm_mergeAt rest k sub k' hm).imp_left (·.trans hp)) ks ks' hks'
    rw [under_cons] at hperm
    refine ⟨rfl, ?_⟩
    simp only [routesOfBN]
    rw [List.append_assoc]
    exact hperm.append_left _

theorem mergeParts_pat (t a t' : BN) (h : mergeParts t a = some t') : t'.pat = t.pat := (perm_mergeParts t a t' h).1

theorem mergeAt_pat (r : Route) (t sub t' : BN) (h : mergeAt r t sub = some t') : t'.pat = t.pat := (perm_mergeAt r t sub t' h).1

theorem applyFangs_pat (id : Nat) : ∀ t : BN, (applyFangs id t).pat = t.pat
  | .mk _ _ _ _ => rfl

mutual
theorem routes_applyFangs (id : Nat) : ∀ t : BN, routesOfBN (applyFangs id t) = routesOfBN t
  | .mk p f h ks => by simp only [applyFangs, routesOfBN, routes_applyKids id ks]
theorem routes_applyKids (id : Nat) : ∀ ks : List BN, routesOfKidsBN (applyKids id ks) = routesOfKidsBN ks
  | [] => rfl
  | k :: ks => by simp only [applyKids, routesOfKidsBN, applyFangs_pat, routes_applyFangs id k, routes_applyKids id ks]
end

end Ohkami.Fangs
