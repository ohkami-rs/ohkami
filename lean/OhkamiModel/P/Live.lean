import OhkamiModel.P.Resp
/-! The entries of the standard-header store that `iter` yields once an entry counts only if its key's slot points at its own
    position: the lines `Headers::write_unchecked_to` writes for the table. -/
namespace Ohkami

/-! enumerate-and-filter with an explicit position offset (the shape of `values.iter().enumerate().filter(..)`) -/
def liveFrom (m : IndexMap) : Nat → List (Nat × Bytes) → List (Nat × Bytes)
  | _, [] => []
  | p, kv :: vs => (if m.slot kv.1 = some p then [kv] else []) ++ liveFrom m (p + 1) vs

def IndexMap.live (m : IndexMap) : List (Nat × Bytes) := liveFrom m 0 m.values

end Ohkami
