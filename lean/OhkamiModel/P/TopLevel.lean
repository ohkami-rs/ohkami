import OhkamiModel.P.FirstMatch
/-! Byte level = segment level: the search of the finalized router on the bytes `/s1/s2/…` is `lookupC` on the trie.
    Both sides enter a static child through its whole forced chain: the bytes by one compressed pattern, the trie by
    `followChain`.  The induction is stated for `enter`, that is for every finalized node and every remaining path, the
    used-up one included; the root is the instance that first runs down the root's own chain. -/
namespace Ohkami

-- the param alternative of `lookupC` at a node with children `ks`
def lookupParam (f : Nat) (ks : List BNode) (s : Bytes) (ss : List Bytes) : Option (Nat × List Bytes) :=
  if s ≠ [] then
    match findParam ks with
    | some k => (lookupC f k ss).map fun (h, ps) => (h, s :: ps)
    | none => none
  else none

/-- the body at the end of a node's forced chain, as a node -/
def chainBody (k : BNode) : BNode := .mk .param (chainEnd k.handler k.kids).2.1 (chainEnd k.handler k.kids).2.2

theorem chainBody_mk (p : Seg) (h : Option Nat) (ks : List BNode) :
    chainBody (.mk p h ks) = .mk .param (chainEnd h ks).2.1 (chainEnd h ks).2.2 := rfl

/-- `alt`: what the caller falls back to when the chain does not go on along the path -/
theorem followChain_lookupC (f : Nat) (alt : Option (Nat × List Bytes)) :
    ∀ (fuel : Nat) (p : Seg) (h : Option Nat) (ks : List BNode) (ss : List Bytes), ss.length < fuel →
    (match followChain fuel (.mk p h ks) ss with
     | some (k', ss') => lookupC f k' ss'
     | none => alt) =
      if (chainEnd h ks).1.isPrefixOf ss then lookupC f (chainBody (.mk p h ks)) (ss.drop (chainEnd h ks).1.length)
      else alt := by
  intro fuel
  induction fuel with
  | zero => intro p h ks ss hf; omega
  | succ g ih =>
    intro p h ks ss hf
    rw [chainBody_mk]
    rcases body_cases h ks with ⟨c, h', ks', rfl, rfl⟩ | hs
    · rw [followChain_link, chainEnd_link]
      match ss with
      | [] => simp [List.isPrefixOf]
      | s' :: ss' =>
        by_cases hc : s' = c
        · subst hc
          simp only [if_true]
          rw [ih (.static s') h' ks' ss' (by simp at hf; omega)]
          simp [List.isPrefixOf, chainBody_mk]
        · have : ¬ (c = s') := fun e => hc e.symm
          simp [List.isPrefixOf, hc, this]
    · rw [followChain_stop g p hs, chainEnd_stop hs]
      simp only [List.isPrefixOf, if_true, List.length_nil, List.drop_zero]
      exact lookupC_body f _ _ ss rfl rfl

theorem lookupC_cons (f : Nat) (p : Seg) (h : Option Nat) (ks : List BNode) (s : Bytes) (ss : List Bytes) (hk : KInv ks) :
    lookupC (f + 1) (.mk p h ks) (s :: ss) =
      match staticPick ks s ss with
      | some (k, rest) => lookupC f (chainBody k) rest
      | none => lookupParam f ks s ss := by
  have hlk : lookupC (f + 1) (.mk p h ks) (s :: ss) =
      (match (if s ≠ [] then (match findStatic ks s with | some k => followChain (ss.length + 1) k ss | none => none) else none) with
       | some (k', ss') => lookupC f k' ss'
       | none => lookupParam f ks s ss) := by rfl
  rw [hlk, staticPick]
  by_cases hse : s = []
  · subst hse
    rw [findStatic_nil_none ks hk]
    simp
  · rw [if_pos hse]
    cases hfs : findStatic ks s with
    | none => rfl
    | some k0 =>
      obtain ⟨p0, h0, ks0⟩ := k0
      refine (followChain_lookupC f (lookupParam f ks s ss) (ss.length + 1) p0 h0 ks0 ss (by omega)).trans ?_
      by_cases hpre : (chainEnd h0 ks0).1.isPrefixOf ss = true <;> simp [hpre, BNode.handler, BNode.kids]

/-- the existential `g`: a root compressed with its child spends one unit of trie fuel on the chain, a plain root none -/
theorem lookupC_root (f : Nat) (p : Seg) (h : Option Nat) (ks : List BNode) (segs : List Bytes)
    (hk : KInv ks) (hf : segs.length < f) :
    ∃ g, (segs.drop (chainEnd h ks).1.length).length ≤ g ∧
      lookupC f (.mk p h ks) segs =
        if (chainEnd h ks).1.isPrefixOf segs then
          lookupC (g + 1) (chainBody (.mk p h ks)) (segs.drop (chainEnd h ks).1.length)
        else none := by
  obtain ⟨f0, rfl⟩ : ∃ f0, f = f0 + 1 := ⟨f - 1, by omega⟩
  rw [chainBody_mk]
  rcases body_cases h ks with ⟨c, h', ks', rfl, rfl⟩ | hs
  · -- a root merged with its only child `c`: one step of `lookupC` (`lookupC_cons` already runs down the child's whole chain), and
    -- with no param child nothing else can match
    rw [chainEnd_link]
    match segs with
    | [] => exact ⟨0, by simp, by simp [List.isPrefixOf, lookupC, BNode.handler]⟩
    | s :: ss =>
      obtain ⟨g, rfl⟩ : ∃ g, f0 = g + 1 := ⟨f0 - 1, by simp at hf; omega⟩
      refine ⟨g, by simp at hf ⊢; omega, ?_⟩
      have hlp : lookupParam (g + 1) [BNode.mk (.static c) h' ks'] s ss = none := by
        simp [lookupParam, findParam, BNode.pat]
      rw [lookupC_cons (g + 1) p none _ s ss hk, hlp, staticPick_cons]
      by_cases hcs : c = s
      · subst hcs
        by_cases hpre : (chainEnd h' ks').1.isPrefixOf ss = true <;>
          simp [BNode.pat, BNode.handler, BNode.kids, chainBody_mk, List.isPrefixOf, hpre]
      · simp [BNode.pat, hcs, staticPick, findStatic, List.isPrefixOf]
  · -- a root that is not merged is its own chain body
    rw [chainEnd_stop hs]
    refine ⟨f0, by simp; omega, ?_⟩
    simp only [List.isPrefixOf, if_true, List.length_nil, List.drop_zero]
    exact lookupC_body (f0 + 1) _ _ segs rfl rfl

theorem kids_inv {ks : List BNode} {p : Seg} {h : Option Nat} {ks' : List BNode}
    (hk : KInv ks) (hns : NSK ks) (hm : BNode.mk p h ks' ∈ ks) :
    KInv ks' ∧ (ks'.map BNode.pat).Nodup ∧ NSK ks' := by
  obtain ⟨hi, _, _⟩ := KInv_iff.mp hk _ hm
  have hns' := NSK_iff.mp hns _ hm
  simp only [NS] at hns'
  exact ⟨(TInv_mk.mp hi).1, (TInv_mk.mp hi).2, hns'.2⟩

/-- what the induction of `enter_eq_lookupC` needs of the child it enters: the finalized child is the body at the end of its chain, that
    body's children keep the invariants, and the path only gets shorter -/
theorem staticPick_inv {ks : List BNode} {s : Bytes} {ss : List Bytes} {k : BNode} {rest : List Bytes}
    (h : staticPick ks s ss = some (k, rest)) (hk : KInv ks) (hns : NSK ks) :
    (∃ pat, finKid k = .mk pat (chainBody k).handler (sortK (finKids (chainBody k).kids))) ∧
    KInv (chainBody k).kids ∧ ((chainBody k).kids.map BNode.pat).Nodup ∧ NSK (chainBody k).kids ∧
    (∀ x ∈ rest, x ∈ ss) ∧ rest.length ≤ ss.length := by
  revert h
  fun_cases staticPick ks s ss
  case case1 k0 hfs _ =>
    rintro ⟨⟩
    obtain ⟨hm, hp⟩ := findStatic_mem hfs
    obtain ⟨p0, h0, ks0⟩ := k
    cases hp
    obtain ⟨hk0, hn0, hns0⟩ := kids_inv hk hns hm
    obtain ⟨_, hke, hne, hnse⟩ := chainEnd_inv h0 ks0 hk0 hn0 hns0
    exact ⟨⟨_, finKid_static s h0 ks0⟩, hke, hne, hnse, fun x hx => List.mem_of_mem_drop hx, by simp⟩
  all_goals exact fun h => nomatch h

-- result of entering a matched child: its handler if the path is used up, else go on below it
def enter (f : Nat) (k : RNode) (rest : List Bytes) : Option (Nat × List Bytes) :=
  if (joinSegs rest).isEmpty then k.handler.map fun h => (h, ([] : List Bytes)) else searchBelow f k (joinSegs rest)

theorem enter_nil (f : Nat) (k : RNode) : enter f k [] = k.handler.map fun h => (h, []) := by
  simp [enter, joinSegs]

theorem enter_cons (f : Nat) (k : RNode) (s : Bytes) (ss : List Bytes) :
    enter f k (s :: ss) = searchBelow f k (joinSegs (s :: ss)) := by
  simp [enter, joinSegs]

theorem searchBelow_miss (f : Nat) (pat : RPat) (h : Option Nat) (kids : List RNode) (bytes : Bytes)
    (hfm : firstMatch kids bytes = none) :
    searchBelow (f + 1) (.mk pat h kids) bytes = none := by
  simp only [searchBelow, RNode.kids, hfm]

theorem searchBelow_static (f : Nat) (pat : RPat) (h : Option Nat) (kids : List RNode) (bytes : Bytes)
    (k : RNode) (rest : List Bytes) (hfm : firstMatch kids bytes = some (k, joinSegs rest, none)) :
    searchBelow (f + 1) (.mk pat h kids) bytes = enter f k rest := by
  simp only [searchBelow, RNode.kids, hfm, enter]

theorem searchBelow_param (f : Nat) (pat : RPat) (h : Option Nat) (kids : List RNode) (bytes : Bytes)
    (k : RNode) (rest : List Bytes) (v : Bytes) (hfm : firstMatch kids bytes = some (k, joinSegs rest, some v)) :
    searchBelow (f + 1) (.mk pat h kids) bytes = (enter f k rest).map fun (h, ps) => (h, v :: ps) := by
  simp only [searchBelow, RNode.kids, hfm, enter]

/-- the trie-side fuel `g + 1` is any sufficient one: the two sides do not spend fuel alike (see `lookupC_root`) -/
theorem enter_eq_lookupC : ∀ (fuel : Nat) (h : Option Nat) (ks : List BNode) (rest : List Bytes) (p : Seg) (pat : RPat) (g : Nat),
    KInv ks → (ks.map BNode.pat).Nodup → NSK ks → (∀ x ∈ rest, NoSlash x) → rest.length ≤ fuel → rest.length ≤ g →
    enter fuel (.mk pat h (sortK (finKids ks))) rest = lookupC (g + 1) (.mk p h ks) rest := by
  intro fuel
  induction fuel with
  | zero =>
    intro h ks rest p pat g _ _ _ _ hf _
    obtain rfl : rest = [] := List.eq_nil_of_length_eq_zero (by omega)
    rw [enter_nil, lookupC_nil]
    rfl
  | succ f ih =>
    intro h ks rest p pat g hk hn hns hss hf hg
    cases rest with
    | nil =>
      rw [enter_nil, lookupC_nil]
      rfl
    | cons s ss =>
      obtain ⟨hs, hss'⟩ := List.forall_mem_cons.mp hss
      have hf' : ss.length ≤ f := by simp at hf; omega
      obtain ⟨g', rfl⟩ : ∃ g', g = g' + 1 := ⟨g - 1, by simp at hg; omega⟩
      have hg' : ss.length ≤ g' := by simp at hg; omega
      have hfm := firstMatch_kids ks s ss hk hn hns hs hss'
      rw [enter_cons, lookupC_cons (g' + 1) p h ks s ss hk]
      cases hsp : staticPick ks s ss with
      | some kr =>
        -- on both sides: the body at the end of the child's chain, with the rest of the path
        obtain ⟨k, rest⟩ := kr
        obtain ⟨⟨pat', hfk⟩, hke, hne, hnse, hsub, hlen⟩ := staticPick_inv hsp hk hns
        simp only [hsp, Option.map_some, Option.some_or, hfk] at hfm
        rw [searchBelow_static f _ _ _ _ _ _ hfm]
        exact ih _ _ rest .param pat' g' hke hne hnse (fun x hx => hss' x (hsub x hx)) (by omega) (by omega)
      | none =>
        rw [hsp, Option.map_none, Option.none_or] at hfm
        -- the cases of `lookupParam`: the param child is entered on both sides; without one, or on an empty segment, neither finds anything
        fun_cases lookupParam (g' + 1) ks s ss
        case case1 hse kp hfp =>
          obtain ⟨hm, hpp⟩ := findParam_mem hfp
          obtain ⟨pp, hp, ksp⟩ := kp
          cases hpp
          obtain ⟨hkp, hnp, hnsp⟩ := kids_inv hk hns hm
          rw [if_pos hse, hfp, Option.map_some] at hfm
          rw [searchBelow_param f _ _ _ _ _ _ _ hfm]
          simp only [finKid]
          rw [ih hp ksp ss .param .param g' hkp hnp hnsp hss' hf' hg']
        case case2 hse hfp => exact searchBelow_miss f _ _ _ _ (by rw [hfm, if_pos hse, hfp, Option.map_none])
        case case3 hse => exact searchBelow_miss f _ _ _ _ (by rw [hfm, if_neg hse])

theorem searchTop_eq_lookupC (fuel : Nat) (p : Seg) (h : Option Nat) (ks : List BNode) (segs : List Bytes)
    (hi : TInv (.mk p h ks)) (hns : NSK ks) (hss : ∀ x ∈ segs, NoSlash x) (hf : segs.length < fuel) :
    searchTop fuel (finalize (.mk p h ks)) (joinSegs segs) = lookupC fuel (.mk p h ks) segs := by
  obtain ⟨hk, hn⟩ := TInv_mk.mp hi
  obtain ⟨hcs, hke, hne, hnse⟩ := chainEnd_inv h ks hk hn hns
  have hfin : finalize (.mk p h ks) =
      .mk (.static (joinSegs (chainEnd h ks).1)) (chainEnd h ks).2.1 (sortK (finKids (chainEnd h ks).2.2)) := by
    have := finStatic_eq [] h ks
    simpa [finalize, joinSegs] using this
  obtain ⟨g, hg, hroot⟩ := lookupC_root fuel p h ks segs hk hf
  rw [hfin, hroot]
  simp only [searchTop, RNode.pat, takeF, RNode.handler]
  rw [takeStatic_chain _ segs hcs hss]
  by_cases hpre : (chainEnd h ks).1.isPrefixOf segs = true
  · rw [if_pos hpre, if_pos hpre]
    -- what is left of `searchTop` is `enter` at the finalized root
    exact enter_eq_lookupC fuel _ _ _ .param _ g hke hne hnse (fun x hx => hss x (List.mem_of_mem_drop hx)) (by simp; omega) hg
  · rw [if_neg hpre, if_neg hpre]
    rfl


end Ohkami
