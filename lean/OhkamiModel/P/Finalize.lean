import OhkamiModel.P.Final
namespace Ohkami

/-! finalisation: single-child compression, child sort, byte patterns (`impl From<base::Node> for Node`) -/

-- children order of the final tree: static patterns first, the param child last
-- (the code sorts the static ones reverse-alphabetically, the model keeps registration order: with distinct sibling
-- patterns at most one static child takes a prefix of a path, `firstMatch_statics`)
def sortK (ks : List RNode) : List RNode :=
  ks.filter (fun k => k.pat != .param) ++ ks.filter (fun k => k.pat == .param)

mutual
-- the compression loop for a node whose (merged) static pattern so far is `acc`
def finStatic (acc : Bytes) (h : Option Nat) (ks : List BNode) : RNode :=
  match h, ks with
  | none, [.mk (.static c) h' ks'] => finStatic (acc ++ slash :: c) h' ks'
  | none, [] => .mk (.static acc) none (sortK (finKids []))
  | none, [.mk .param h' ks'] => .mk (.static acc) none (sortK (finKids [.mk .param h' ks']))
  | none, k1 :: k2 :: rest => .mk (.static acc) none (sortK (finKids (k1 :: k2 :: rest)))
  | some x, ks => .mk (.static acc) (some x) (sortK (finKids ks))
termination_by (sizeOf ks, 1)
decreasing_by
  all_goals simp_wf
  · left; omega
  all_goals (right; omega)
def finKids (ks : List BNode) : List RNode :=
  match ks with
  | [] => []
  | (.mk (.static c) h ks') :: rest => finStatic (slash :: c) h ks' :: finKids rest
  | (.mk .param h ks') :: rest => .mk .param h (sortK (finKids ks')) :: finKids rest
termination_by (sizeOf ks, 0)
decreasing_by
  all_goals simp_wf
  all_goals (left; omega)
end

def finalize : BNode → RNode
  | .mk _ h ks => finStatic [] h ks

-- the trie of `ex2`
def tABD : BNode := .mk .param none [.mk (.static [97]) none [.mk (.static [98]) (some 1) [], .mk (.static [100]) (some 3) []], .mk .param none [.mk (.static [99]) (some 2) []]]

-- the forced chain below a node body `(h, ks)` and the body at its end
def chainEnd (h : Option Nat) (ks : List BNode) : List Bytes × Option Nat × List BNode :=
  match h, ks with
  | none, [.mk (.static c) h' ks'] => let r := chainEnd h' ks'; (c :: r.1, r.2)
  | none, [] => ([], none, [])
  | none, [.mk .param h' ks'] => ([], none, [.mk .param h' ks'])
  | none, k1 :: k2 :: rest => ([], none, k1 :: k2 :: rest)
  | some x, ks => ([], some x, ks)
termination_by sizeOf ks
decreasing_by simp_wf; omega

theorem chainEnd_link (c : Bytes) (h' : Option Nat) (ks' : List BNode) :
    chainEnd none [.mk (.static c) h' ks'] = (c :: (chainEnd h' ks').1, (chainEnd h' ks').2) := by
  rw [chainEnd]

theorem chainEnd_stop {h : Option Nat} {ks : List BNode} (hs : Stop h ks) : chainEnd h ks = ([], h, ks) := by
  match h, ks, hs with
  | none, [.mk (.static c) h' ks'], hs => exact absurd ⟨rfl, rfl⟩ (hs c h' ks')
  | none, [], _ | none, [.mk .param _ _], _ | none, _ :: _ :: _, _ | some _, _, _ => rw [chainEnd]

theorem finStatic_eq (pre : List Bytes) (h : Option Nat) (ks : List BNode) :
    finStatic (joinSegs pre) h ks =
      .mk (.static (joinSegs (pre ++ (chainEnd h ks).1))) (chainEnd h ks).2.1 (sortK (finKids (chainEnd h ks).2.2)) := by
  fun_induction chainEnd h ks generalizing pre with
  | case1 c h' ks' r ih =>
    rw [finStatic]
    have : joinSegs pre ++ slash :: c = joinSegs (pre ++ [c]) := by simp [joinSegs_append, joinSegs]
    rw [this, ih (pre ++ [c])]
    simp only [List.append_assoc, List.singleton_append]
    rfl
  | case2 | case3 | case4 | case5 => rw [finStatic]; simp

end Ohkami
