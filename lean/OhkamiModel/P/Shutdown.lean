/-! C18, the protocol alone (no connections, no reactor): Ctrl-C handler vs UntilInterrupt::poll over CATCH / WAKER. -/
namespace Ohkami.Shutdown

-- program counters
inductive HPc where | h0 | h1 | h2 | hDone       -- h0: store CATCH; h1: swap WAKER null; h2: wake if non-null
deriving DecidableEq, Repr
inductive PPc where | idle | p1 | p2 | p3 | pending | returnedNone
  -- idle: not being polled (needs a wake or first poll); p1: inner poll done (Pending), about to load CATCH
  -- p2: loaded false, about to swap WAKER in ; p3 (fixed code only): about to re-check CATCH
deriving DecidableEq, Repr

structure St where
  catch_  : Bool
  waker   : Bool          -- WAKER non-null
  taken   : Bool          -- handler's local `waker` is non-null
  hpc     : HPc
  ppc     : PPc
  wakePending : Bool      -- a wake was delivered and the task will be polled again
deriving DecidableEq, Repr

def init : St := ⟨false, false, false, .h0, .p1, false⟩    -- first poll has started

inductive Who where | handler | poller deriving DecidableEq, Repr

-- `fixed = true` models the repair: re-check CATCH after publishing the waker
def step (fixed : Bool) (s : St) : Who → Option St
  | .handler =>
    match s.hpc with
    | .h0 => some { s with catch_ := true, hpc := .h1 }
    | .h1 => some { s with taken := s.waker, waker := false, hpc := .h2 }
    | .h2 => some { s with wakePending := s.wakePending || s.taken, hpc := .hDone }
    | .hDone => none
  | .poller =>
    match s.ppc with
    | .p1 => if s.catch_ then some { s with ppc := .returnedNone } else some { s with ppc := .p2 }
    | .p2 => some { s with waker := true, ppc := if fixed then .p3 else .pending }
    | .p3 => if s.catch_ then some { s with ppc := .returnedNone } else some { s with ppc := .pending }
    | .pending => if s.wakePending then some { s with wakePending := false, ppc := .p1 } else none
    | .idle => none
    | .returnedNone => none

-- all states reachable within `fuel` steps under every scheduling choice
def reach (fixed : Bool) : Nat → List St → List St
  | 0, acc => acc
  | fuel + 1, acc =>
    let next := acc.flatMap fun s => [step fixed s .handler, step fixed s .poller].filterMap id
    reach fixed fuel ((acc ++ next).eraseDups)

def quiescent (fixed : Bool) (s : St) : Bool := (step fixed s .handler).isNone && (step fixed s .poller).isNone

-- bad: the handler ran to completion, nothing can move, and the loop is still waiting
def lost (fixed : Bool) (s : St) : Bool := quiescent fixed s && s.hpc == .hDone && s.ppc != .returnedNone

theorem lost_wakeup_in_current_code : (reach false 12 [init]).any (lost false) = true := by decide

inductive Reachable (fixed : Bool) : St → Prop
  | init : Reachable fixed init
  | step (s s' : St) (w : Who) : Reachable fixed s → step fixed s w = some s' → Reachable fixed s'

/-- the inductive invariant of the repaired protocol: the three clauses of `Shutdown2.inv` (explained in M/ShutdownProofs.lean), and the poll is
    never `idle` (no step leads there) -/
def inv (s : St) : Bool :=
  s.ppc != .idle && s.catch_ == (s.hpc != .h0) && (!(s.ppc == .p3 && s.hpc == .h0) || s.waker) &&
  (!(s.ppc == .pending && !s.wakePending) || (s.hpc == .h0 || s.hpc == .h1) && s.waker || s.hpc == .h2 && s.taken)

theorem inv_facts (s : St) (h : inv s = true) :
    (∀ w ∈ [Who.handler, .poller], (step true s w).all inv = true) ∧ lost true s = false := by
  obtain ⟨c, wk, t, hp, pp, wp⟩ := s
  revert c wk t wp h
  cases hp <;> cases pp <;> decide

theorem inv_reachable (s : St) (h : Reachable true s) : inv s = true := by
  induction h with
  | init => rfl
  | step s s' w _ hst ih =>
    have := (inv_facts s ih).1 w (by cases w <;> simp)
    rwa [hst] at this

/-- C18 (protocol level): in the repaired code no reachable state has lost the interrupt -/
theorem no_lost_wakeup (s : St) (h : Reachable true s) : lost true s = false :=
  (inv_facts s (inv_reachable s h)).2

end Ohkami.Shutdown
