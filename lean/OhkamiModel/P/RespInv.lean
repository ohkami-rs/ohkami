import OhkamiModel.P.RespProofs
/-! The header store with its size: every operation reads as the point update `absStd`, and keeps `size` the number of bytes written. -/
namespace Ohkami
open IndexMap

def gX (nv : Bytes × Bytes) : Nat := nv.1.length + sepLen + nv.2.length + crlfLen
def customLen (l : List (Bytes × Bytes)) : Nat := (l.map gX).sum
def cookieLen (l : List Bytes) : Nat := (l.map fun c => 12 + c.length + crlfLen).sum

theorem sum_map_eq_getElem_add {α} (g : α → Nat) (l : List α) (i : Nat) (hi : i < l.length) :
    (l.map g).sum = g l[i] + ((l.eraseIdx i).map g).sum := by
  conv => lhs; rw [← List.take_append_drop i l, List.drop_eq_getElem_cons hi]
  simp only [List.eraseIdx_eq_take_drop_succ, List.map_append, List.map_cons, List.sum_append_nat, List.sum_cons]
  omega

theorem sum_map_set {α} (g : α → Nat) (l : List α) (i : Nat) (x : α) (hi : i < l.length) :
    ((l.set i x).map g).sum + g l[i] = (l.map g).sum + g x := by
  rw [sum_map_eq_getElem_add g l i hi, sum_map_eq_getElem_add g (l.set i x) i (by rw [List.length_set]; exact hi),
    List.eraseIdx_set_eq, List.getElem_set_self]
  omega

theorem le_sum_map_getElem {α} (g : α → Nat) (l : List α) (i : Nat) (hi : i < l.length) : g l[i] ≤ (l.map g).sum :=
  sum_map_eq_getElem_add g l i hi ▸ Nat.le_add_right _ _

theorem customLen_push (l : List (Bytes × Bytes)) (x : Bytes × Bytes) : customLen (l ++ [x]) = customLen l + gX x := by
  simp [customLen]

theorem sum_map_dropLast {α} (g : α → Nat) (l : List α) (hne : l ≠ []) :
    ((l.dropLast).map g).sum + g (l.getLast hne) = (l.map g).sum := by
  have := List.dropLast_concat_getLast hne
  conv => rhs; rw [← this]
  simp

theorem swapRemove_eq {α} (l : List α) (i : Nat) (hi : i < l.length) (hne : l ≠ []) :
    swapRemove l i = (l.set i (l.getLast hne)).dropLast := by
  unfold swapRemove
  rw [List.getElem?_eq_getElem hi, List.getLast?_eq_some_getLast hne]
  simp only
  split
  next h => rw [List.dropLast_eq_take, List.dropLast_eq_take, List.length_set, List.take_set_of_le (by omega)]
  next => rfl

theorem sum_map_swapRemove {α} (g : α → Nat) (l : List α) (i : Nat) (hi : i < l.length) :
    ((swapRemove l i).map g).sum + g l[i] = (l.map g).sum := by
  have hne : l ≠ [] := by intro h; subst h; simp at hi
  have hne' : l.set i (l.getLast hne) ≠ [] := by simp [hne]
  have hlast : (l.set i (l.getLast hne)).getLast hne' = l.getLast hne := by
    simp only [List.getLast_eq_getElem, List.getElem_set, List.length_set, ite_self]
  have a := sum_map_dropLast g _ hne'
  have b := sum_map_set g l i (l.getLast hne) hi
  rw [swapRemove_eq l i hi hne]
  rw [hlast] at a
  omega

theorem sum_map_swapRemove_le {α} (g : α → Nat) (l : List α) (i : Nat) (hi : i < l.length) :
    ((swapRemove l i).map g).sum ≤ (l.map g).sum :=
  Nat.le.intro (sum_map_swapRemove g l i hi)

theorem findIdx?_spec {l : List (Bytes × Bytes)} {n : Bytes} {i : Nat} (h : l.findIdx? (fun nv => decide (nv.1 = n)) = some i) :
    ∃ hi : i < l.length, l[i].1 = n := by
  obtain ⟨hi, hp, _⟩ := List.findIdx?_eq_some_iff_getElem.mp h
  exact ⟨hi, by simpa using hp⟩

def fStd (nameLen : Nat → Nat) (kv : Nat × Bytes) : Nat := nameLen kv.1 + sepLen + kv.2.length + crlfLen

structure Headers.Inv (nameLen : Nat → Nat) (n : Nat) (h : Headers) : Prop where
  wf : h.std.WF n
  size_eq : h.size = stdLen (fStd nameLen) h.std + customLen h.custom + cookieLen h.cookies + crlfLen

theorem Inv_empty (nameLen : Nat → Nat) (n : Nat) : (Headers.empty n).Inv nameLen n := by
  constructor
  · exact WF_new n
  · simp [Headers.empty, stdLen, sumLive, liveFrom, IndexMap.new, customLen, cookieLen]

def HOp.keyOk (n : Nat) : HOp → Prop
  | .insert k _ | .remove k | .append k _ => k < n
  | _ => True

/-- the key of the table an operation addresses, if it addresses the table (`keyOk` bounds it) -/
def HOp.key : HOp → Option Nat
  | .insert k _ | .remove k | .append k _ => some k
  | _ => none

theorem HOp.keyOk_iff (n : Nat) (op : HOp) : op.keyOk n ↔ ∀ k, op.key = some k → k < n := by
  cases op <;> simp [HOp.keyOk, HOp.key]

theorem joinSep_length : joinSep.length = 2 := rfl

/-- the headers as the map they stand for: what each operation means -/
def absStd (g : Nat → Option Bytes) : HOp → Nat → Option Bytes
  | .insert k v, k' => if k' = k then some v else g k'
  | .remove k, k' => if k' = k then none else g k'
  | .append k v, k' => if k' = k then some (match g k with | none => v | some old => old ++ joinSep ++ v) else g k'
  | _, k' => g k'

theorem absStd_of_key_ne (g : Nat → Option Bytes) (op : HOp) (k' : Nat) (h : op.key ≠ some k') : absStd g op k' = g k' := by
  cases op <;> first | rfl | exact if_neg fun e => h (congrArg some e.symm)

theorem std_apply (nameLen : Nat → Nat) (n : Nat) (h : Headers) (hw : h.std.WF n) (op : HOp) (hk : op.keyOk n) :
    (h.apply nameLen op).std.WF n ∧ ∀ k', (h.apply nameLen op).std.get k' = absStd h.std.get op k' := by
  cases op with
  | insert k v | append k v =>
    simp only [Headers.apply, absStd]
    cases hg : h.std.get k with
    | none => exact set_spec _ n hw k hk _
    | some old => exact update_spec _ n hw k _ old hg
  | remove k =>
    simp only [Headers.apply, absStd]
    cases hg : h.std.get k <;> exact delete_spec _ n hw k
  | insertX nm v | removeX nm | appendX nm v => simp only [Headers.apply, absStd]; split <;> exact ⟨hw, fun _ => rfl⟩
  | cookie l => exact ⟨hw, fun _ => rfl⟩

/-- `C03.latest_value`; it needs the slot table well-formed, not the size -/
theorem std_refines (nameLen : Nat → Nat) (n : Nat) (h : Headers) (hw : h.std.WF n) (op : HOp) (hk : op.keyOk n) (k' : Nat) :
    (h.apply nameLen op).std.get k' = absStd h.std.get op k' :=
  (std_apply nameLen n h hw op hk).2 k'

theorem WF_apply (nameLen : Nat → Nat) (n : Nat) (h : Headers) (hw : h.std.WF n) (op : HOp) (hk : op.keyOk n) :
    (h.apply nameLen op).std.WF n :=
  (std_apply nameLen n h hw op hk).1

theorem stdLen_apply (nameLen : Nat → Nat) (n : Nat) (h : Headers) (hw : h.std.WF n) (op : HOp) (hk : op.keyOk n) (f : Nat × Bytes → Nat)
    (k : Nat) (hkey : op.key = some k) :
    stdLen f (h.apply nameLen op).std + cost f k (h.std.get k) = stdLen f h.std + cost f k (absStd h.std.get op k) := by
  obtain ⟨wf', hget⟩ := std_apply nameLen n h hw op hk
  rw [← hget k]
  refine stdLen_pointUpdate f hw wf' k fun k' hk' => ?_
  rw [hget, absStd_of_key_ne _ _ _ (hkey ▸ fun e => hk' (Option.some.inj e).symm)]

theorem getElem?_map_getD {α β} (l : List α) (i : Nat) (hi : i < l.length) (f : α → β) (d : β) : ((l[i]?).map f).getD d = f l[i] := by
  rw [List.getElem?_eq_getElem hi]; rfl

/-! ### the arithmetic of the size accounting, once
An operation takes the `a` bytes of an old line out of one part of what is written (the table `S`, the custom lines `C`) and puts the
`b` bytes of a new line in; `size` (`x`) is moved alike (`hE`), by one of four expressions: `x + b`, `x - a`, and the two below. -/
theorem acct_std {x x' S S' C K e a b : Nat} (hx : x = S + C + K + e) (hS : S' + a = S + b) (ha : a ≤ S)
    (hE : a ≤ x → x' + a = x + b) : x' = S' + C + K + e := by
  have := hE (by omega); omega

theorem acct_custom {x x' S C C' K e a b : Nat} (hx : x = S + C + K + e) (hC : C' + a = C + b) (ha : a ≤ C)
    (hE : a ≤ x → x' + a = x + b) : x' = S + C' + K + e := by
  have := hE (by omega); omega

/-- the value of a line replaced: `size - old + v` -/
theorem size_replace {x n s old v e : Nat} (h : n + s + old + e ≤ x) : x - old + v + (n + s + old + e) = x + (n + s + v + e) := by
  omega

/-- a value joined to a line: `size + (2 + v)` -/
theorem size_join {x n s e : Nat} {old v : Bytes} (_ : n + s + old.length + e ≤ x) :
    x + (2 + v.length) + (n + s + old.length + e) = x + (n + s + (old ++ joinSep ++ v).length + e) := by
  simp only [List.length_append, joinSep_length]; omega

theorem Inv_apply (nameLen : Nat → Nat) (n : Nat) (h : Headers) (hi : h.Inv nameLen n) (op : HOp) (hk : op.keyOk n) :
    (h.apply nameLen op).Inv nameLen n := by
  obtain ⟨wf, hs⟩ := hi
  refine ⟨WF_apply nameLen n h wf op hk, ?_⟩
  -- each case names the part of what is written that changes (by the line of one key or name), the bound on the line taken out,
  -- and the expression by which the operation moves `size`
  cases op with
  | insert k v =>
    have key := stdLen_apply nameLen n h wf _ hk (fStd nameLen) k rfl
    have hle := cost_le_stdLen (fStd nameLen) wf k
    cases hg : h.std.get k <;> simp only [Headers.apply, absStd, if_true, hg, cost, fStd] at key hle ⊢
    · exact acct_std hs key hle fun _ => rfl
    · exact acct_std hs key hle size_replace
  | remove k =>
    have key := stdLen_apply nameLen n h wf _ hk (fStd nameLen) k rfl
    have hle := cost_le_stdLen (fStd nameLen) wf k
    cases hg : h.std.get k <;> simp only [Headers.apply, absStd, if_true, hg, cost, fStd] at key hle ⊢
    · exact acct_std hs key hle fun _ => rfl
    · exact acct_std hs key hle Nat.sub_add_cancel
  | append k v =>
    have key := stdLen_apply nameLen n h wf _ hk (fStd nameLen) k rfl
    have hle := cost_le_stdLen (fStd nameLen) wf k
    cases hg : h.std.get k <;> simp only [Headers.apply, absStd, if_true, hg, cost, fStd] at key hle ⊢
    · exact acct_std hs key hle fun _ => rfl
    · exact acct_std hs key hle size_join
  | insertX name v =>
    simp only [Headers.apply]
    cases hf : h.custom.findIdx? (fun nv => decide (nv.1 = name)) with
    | none => exact acct_custom (a := 0) hs (customLen_push _ _) (Nat.zero_le _) fun _ => rfl
    | some i =>
      obtain ⟨hi, rfl⟩ := findIdx?_spec hf
      simp only [getElem?_map_getD _ i hi]
      exact acct_custom hs (sum_map_set gX _ i _ hi) (le_sum_map_getElem gX _ i hi) size_replace
  | appendX name v =>
    simp only [Headers.apply]
    cases hf : h.custom.findIdx? (fun nv => decide (nv.1 = name)) with
    | none => exact acct_custom (a := 0) hs (customLen_push _ _) (Nat.zero_le _) fun _ => rfl
    | some i =>
      obtain ⟨hi, rfl⟩ := findIdx?_spec hf
      simp only [getElem?_map_getD _ i hi]
      exact acct_custom hs (sum_map_set gX _ i _ hi) (le_sum_map_getElem gX _ i hi) size_join
  | removeX name =>
    simp only [Headers.apply]
    cases hf : h.custom.findIdx? (fun nv => decide (nv.1 = name)) with
    | none => exact hs
    | some i =>
      obtain ⟨hi, rfl⟩ := findIdx?_spec hf
      simp only [getElem?_map_getD _ i hi]
      exact acct_custom (b := 0) hs (sum_map_swapRemove gX _ i hi) (le_sum_map_getElem gX _ i hi) Nat.sub_add_cancel
  | cookie line => simp [Headers.apply, hs, cookieLen]; omega

end Ohkami
