import OhkamiModel.Basic
/-! C12 model: `JWT::verified` (after F15, F16 of docs/design-phase1.md) with `mac`, JSON, base64url and the clock as parameters. -/
namespace Ohkami.Jwt

def DOT : UInt8 := 46

-- minimal JSON view the fang needs: a claim is absent, a number (as a rational num/den with sign), or something else
inductive Claim where
  | absent
  | num (neg : Bool) (n d : Nat)      -- ±n/d, d > 0
  | other
deriving DecidableEq, Repr

structure Json where
  typ : Option (Option Bytes)   -- none: no "typ"; some none: present but not a string; some (some s)
  cty : Option (Option Bytes)
  alg : Option (Option Bytes)
  nbf : Claim
  exp : Claim
  iat : Claim
  payload : Nat                 -- opaque handle of the whole JSON value (what the typed read sees)

inductive Alg where | HS256 | HS384 | HS512 deriving DecidableEq, Repr
def Alg.str : Alg → Bytes
  | .HS256 => [72, 83, 50, 53, 54] | .HS384 => [72, 83, 51, 56, 52] | .HS512 => [72, 83, 53, 49, 50]

structure Env where
  mac : Alg → Bytes → Bytes → Bytes          -- HMAC-SHA2 (parameter)
  jsonParse : Bytes → Option Json            -- serde_json::from_slice (parameter)
  b64urlDec : Bytes → Option Bytes           -- URL_SAFE_NO_PAD decode (concrete in the project; parameter here)
  fromValue : Nat → Option Nat               -- the typed read `serde_json::from_slice::<Payload>` of the payload (parameter)
  now : Nat

inductive Out where
  | admit (payload : Nat)
  | status (code : Nat)
deriving DecidableEq, Repr

def lowerEq (a : Bytes) (b : Bytes) : Bool := a.map (fun c => if 65 ≤ c && c ≤ 90 then c + 32 else c) == b
def jwtLower : Bytes := [106, 119, 116]

-- t > now / t ≤ now on exact rationals
def gtNow (c : Claim) (now : Nat) : Bool := match c with | .num false n d => n > now * d | _ => false
def leNow (c : Claim) (now : Nat) : Bool := match c with | .num true _ _ => true | .num false n d => n ≤ now * d | _ => false

def splitDots : Bytes → List Bytes
  | [] => [[]]
  | b :: bs =>
    match splitDots bs with
    | [] => [[]]
    | l :: ls => if b = DOT then [] :: l :: ls else (b :: l) :: ls

def bearer : Bytes := [66, 101, 97, 114, 101, 114, 32]

-- `typ` / `cty`, when present, must be the string "JWT" in any letter case
def tagOk (t : Option (Option Bytes)) : Bool :=
  match t with | none => true | some (some s) => lowerEq s jwtLower | some none => false
def futureBad (c : Claim) (now : Nat) : Bool := c != .absent && (c == .other || gtNow c now)
def pastBad (c : Claim) (now : Nat) : Bool := c != .absent && (c == .other || leNow c now)

def verified (E : Env) (alg : Alg) (secret : Bytes) (isOptions : Bool) (auth : Option Bytes) : Out :=
  if isOptions then .status 200 else
  match auth with
  | none => .status 401
  | some v =>
    if !bearer.isPrefixOf v then .status 401 else
    match splitDots (v.drop bearer.length) with
    | [] => .status 401
    | hp :: rest1 =>
      match (E.b64urlDec hp).bind E.jsonParse with
      | none => .status 400
      | some hdr =>
        if !tagOk hdr.typ then .status 400 else
        if !tagOk hdr.cty then .status 400 else
        match hdr.alg with
        | none => .status 401
        | some a =>
          if a != some alg.str then .status 400 else
          match rest1 with
          | [] => .status 401
          | pp :: rest2 =>
            match (E.b64urlDec pp).bind E.jsonParse with
            | none => .status 400
            | some pl =>
              -- F15: a claim that is present must be a number; nbf/iat not in the future, exp in the future
              if futureBad pl.nbf E.now then .status 401 else
              if pastBad pl.exp E.now then .status 401 else
              if futureBad pl.iat E.now then .status 401 else
              match rest2 with
              | [] => .status 401
              | sp :: rest3 =>
                match E.b64urlDec sp with
                | none => .status 401
                | some sig =>
                  if !rest3.isEmpty then .status 401 else      -- F16
                  if sig != E.mac alg secret (hp ++ [DOT] ++ pp) then .status 401 else
                  match E.fromValue pl.payload with
                  | none => .status 500
                  | some p => .admit p

def claimsAdmit (pl : Json) (now : Nat) : Prop :=
  futureBad pl.nbf now = false ∧ pastBad pl.exp now = false ∧ futureBad pl.iat now = false

-- what "admit the current time" means for one claim, on examples (now = 100)
example : futureBad .absent 100 = false ∧ futureBad .other 100 = true ∧ futureBad (.num false 101 1) 100 = true
    ∧ futureBad (.num false 201 2) 100 = true ∧ futureBad (.num false 100 1) 100 = false ∧ futureBad (.num true 5 1) 100 = false := by decide
example : pastBad .absent 100 = false ∧ pastBad .other 100 = true ∧ pastBad (.num false 100 1) 100 = true
    ∧ pastBad (.num false 201 2) 100 = false ∧ pastBad (.num true 5 1) 100 = true := by decide

theorem splitDots_ne_nil : ∀ a : Bytes, splitDots a ≠ []
  | [] => by simp [splitDots]
  | b :: t => by
    rw [splitDots]
    split
    · simp
    · split <;> simp

theorem splitDots_append (a rest : Bytes) (h : DOT ∉ a) : splitDots (a ++ DOT :: rest) = a :: splitDots rest := by
  induction a with
  | nil =>
    obtain ⟨l, ls, hs⟩ := List.exists_cons_of_ne_nil (splitDots_ne_nil rest)
    simp [splitDots, hs]
  | cons b t ih =>
    rw [List.mem_cons, not_or] at h
    simp [splitDots, ih h.2, Ne.symm h.1]

theorem splitDots_noDot (a : Bytes) (h : DOT ∉ a) : splitDots a = [a] := by
  induction a with
  | nil => rfl
  | cons b t ih =>
    rw [List.mem_cons, not_or] at h
    simp [splitDots, ih h.2, Ne.symm h.1]

/-- `verified` refuses with one of the statuses (200 only for the OPTIONS bypass), or every check holds and it admits:
    one case per way through `verified`, the last of them the admitting one. -/
theorem verified_cases (E : Env) (alg : Alg) (secret : Bytes) (isOptions : Bool) (auth : Option Bytes) :
    (∃ c, verified E alg secret isOptions auth = .status c ∧ (c = 400 ∨ c = 401 ∨ c = 500 ∨ (c = 200 ∧ isOptions = true))) ∨
    (∃ p, verified E alg secret isOptions auth = .admit p ∧ isOptions = false ∧
      ∃ v hp pp sp hdr pl, auth = some v ∧ bearer.isPrefixOf v = true ∧
      splitDots (v.drop bearer.length) = [hp, pp, sp] ∧
      (E.b64urlDec hp).bind E.jsonParse = some hdr ∧ tagOk hdr.typ = true ∧ tagOk hdr.cty = true ∧
      hdr.alg = some (some alg.str) ∧
      (E.b64urlDec pp).bind E.jsonParse = some pl ∧ claimsAdmit pl E.now ∧
      E.b64urlDec sp = some (E.mac alg secret (hp ++ [DOT] ++ pp)) ∧ E.fromValue pl.payload = some p) := by
  fun_cases verified E alg secret isOptions auth
  case case1 ho => exact .inl ⟨200, rfl, by simp [ho]⟩
  case case20 ho v hb hp hdr hh ht hc a ha haa pp pl hp' hn he hi sp rest3 sig hsg hr hm p hf hs =>
    simp only [Bool.not_eq_true, Bool.not_eq_false', bne_iff_ne, ne_eq, Decidable.not_not, List.isEmpty_iff] at ho hb ht hc haa hn he hi hr hm
    subst hr haa hm
    exact .inr ⟨p, rfl, ho, v, hp, pp, sp, hdr, pl, rfl, hb, hs, hh, ht, hc, ha, hp', ⟨hn, he, hi⟩, hsg, hf⟩
  all_goals exact .inl ⟨_, rfl, by simp⟩

/-- C12, soundness: the handler runs only for `Bearer h.p.s` with exactly three parts, whose signature is the MAC of
    `h.p` under the configured secret and algorithm, whose header names that algorithm, whose time claims admit `now`;
    and the payload handed on is the signed payload. -/
theorem admit_sound (E : Env) (alg : Alg) (secret : Bytes) (isOptions : Bool) (auth : Option Bytes) (p : Nat)
    (h : verified E alg secret isOptions auth = .admit p) :
    isOptions = false ∧ ∃ v hp pp sp hdr pl, auth = some v ∧ bearer.isPrefixOf v = true ∧
      splitDots (v.drop bearer.length) = [hp, pp, sp] ∧
      (E.b64urlDec hp).bind E.jsonParse = some hdr ∧ hdr.alg = some (some alg.str) ∧
      (E.b64urlDec pp).bind E.jsonParse = some pl ∧ claimsAdmit pl E.now ∧
      E.b64urlDec sp = some (E.mac alg secret (hp ++ [DOT] ++ pp)) ∧ E.fromValue pl.payload = some p := by
  rcases verified_cases E alg secret isOptions auth with
    ⟨c, hc, _⟩ | ⟨p', hv, ho, v, hp, pp, sp, hdr, pl, h1, h2, h3, h4, _, _, h5⟩
  · rw [hc] at h; cases h
  · rw [hv] at h; cases h
    exact ⟨ho, v, hp, pp, sp, hdr, pl, h1, h2, h3, h4, h5⟩

end Ohkami.Jwt
