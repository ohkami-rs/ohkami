import OhkamiModel.P.FangsScopeMerge
/-! C04, scope: for every application tree under the side condition, the registration trie answers every path
    with exactly the chain of applications whose mount prefix contains it (`scope_build`). -/
namespace Ohkami.Fangs
open Ohkami

mutual
theorem allIds_mono (P Q : Nat → Prop) (hpq : ∀ x, P x → Q x) : ∀ t : BN, AllIds P t → AllIds Q t
  | .mk _ _ _ ks, h => ⟨fun x hx => hpq x (h.1 x hx), allIdsKids_mono P Q hpq ks h.2⟩
theorem allIdsKids_mono (P Q : Nat → Prop) (hpq : ∀ x, P x → Q x) : ∀ ks : List BN, AllIdsKids P ks → AllIdsKids Q ks
  | [], _ => trivial
  | k :: ks, h => ⟨allIds_mono P Q hpq k h.1, allIdsKids_mono P Q hpq ks h.2⟩
end

mutual
theorem allIds_of_flat_nil (P : Nat → Prop) : ∀ t : BN, Flat [] t → AllIds P t
  | .mk _ f _ ks, h => by
    obtain ⟨rfl, hk⟩ := h
    exact ⟨by simp, allIdsKids_of_flat_nil P ks hk⟩
theorem allIdsKids_of_flat_nil (P : Nat → Prop) : ∀ ks : List BN, FlatKids [] ks → AllIdsKids P ks
  | [], _ => trivial
  | k :: ks, h => ⟨allIds_of_flat_nil P k h.1, allIdsKids_of_flat_nil P ks h.2⟩
end

theorem applyFangs_fangs (id : Nat) (t : BN) : (applyFangs id t).fangs = addFang t.fangs id := by
  obtain ⟨p, f, h, ks⟩ := t
  simp [applyFangs, BN.fangs]

theorem fresh_of_allIds {S : Nat → Prop} {id : Nat} (hid : ¬ S id) : ∀ {t : BN}, AllIds S t → id ∉ t.fangs
  | .mk _ _ _ _, h => fun hx => hid (h.1 id hx)

mutual
theorem applyFangs_scope (id : Nat) (S : Nat → Prop) (hid : ¬ S id) : ∀ (t : BN) (ss : List Bytes), AllIds S t →
    scopeBN (applyFangs id t) ss = scopeBN t ss ++ [id]
  | .mk _ f _ ks, [], h => by
    have : id ∉ f := fresh_of_allIds hid h
    simp [applyFangs, scopeBN, addFang_fresh f id this]
  | .mk _ f _ ks, s :: rest, h => by
    have : id ∉ f := fresh_of_allIds hid h
    simp only [applyFangs, scopeBN, addFang_fresh f id this]
    exact applyKids_scope id S hid f ks s rest h.2
theorem applyKids_scope (id : Nat) (S : Nat → Prop) (hid : ¬ S id) (f : List Nat) : ∀ (ks : List BN) (s : Bytes) (rest : List Bytes),
    AllIdsKids S ks → scopeKids (f ++ [id]) (applyKids id ks) s rest = scopeKids f ks s rest ++ [id]
  | [], _, _, _ => by simp [applyKids, scopeKids]
  | k :: ks, s, rest, h => by
    simp only [applyKids, scopeKids, kidMatches, applyFangs_pat]
    by_cases hm : (Option.map (fun x => segMatch x s) k.pat).getD false = true
    · simp only [hm, if_true]
      exact applyFangs_scope id S hid k rest h.1
    · simp only [hm]
      exact applyKids_scope id S hid f ks s rest h.2
end

mutual
theorem applyFangs_flat (id : Nat) (f : List Nat) (hid : id ∉ f) : ∀ t : BN, Flat f t → Flat (f ++ [id]) (applyFangs id t)
  | .mk _ f' _ ks, h => by
    obtain ⟨rfl, hk⟩ := h
    exact ⟨by simp [addFang_fresh f' id hid], applyKids_flat id f' hid ks hk⟩
theorem applyKids_flat (id : Nat) (f : List Nat) (hid : id ∉ f) : ∀ ks : List BN, FlatKids f ks → FlatKids (f ++ [id]) (applyKids id ks)
  | [], _ => trivial
  | k :: ks, h => ⟨applyFangs_flat id f hid k h.1, applyKids_flat id f hid ks h.2⟩
end

mutual
theorem applyFangs_good (id : Nat) (S : Nat → Prop) (hid : ¬ S id) : ∀ t : BN, Good t → AllIds S t → Good (applyFangs id t)
  | .mk _ f _ ks, hg, ha => by
    have hf : id ∉ f := fresh_of_allIds hid ha
    obtain ⟨hn, hpw, hgk⟩ := hg
    simp only [applyFangs, addFang_fresh f id hf]
    refine ⟨(List.nodup_cons.mpr ⟨hf, hn⟩).perm (List.perm_append_singleton id f).symm, ?_, applyKids_good id S hid f hf ks hgk ha.2⟩
    rw [applyKids_eq_map, List.pairwise_map]
    refine hpw.imp ?_
    intro a b hab ho
    simp only [applyFangs_pat] at ho
    obtain ⟨h1, h2⟩ := hab ho
    exact ⟨applyFangs_flat id f hf a h1, applyFangs_flat id f hf b h2⟩
theorem applyKids_good (id : Nat) (S : Nat → Prop) (hid : ¬ S id) (f : List Nat) (hf : id ∉ f) : ∀ ks : List BN,
    GoodKids f ks → AllIdsKids S ks → GoodKids (f ++ [id]) (applyKids id ks)
  | [], _, _ => trivial
  | k :: ks, hg, ha => by
    obtain ⟨⟨e, he⟩, hgk, hgs⟩ := hg
    refine ⟨⟨e, ?_⟩, applyFangs_good id S hid k hgk ha.1, applyKids_good id S hid f hf ks hgs ha.2⟩
    rw [applyFangs_fangs, addFang_fresh _ id (fresh_of_allIds hid ha.1), he, List.append_assoc]
end

theorem mem_addFang (l : List Nat) (id x : Nat) : x ∈ addFang l id ↔ x = id ∨ x ∈ l := by
  unfold addFang
  split
  · next h => exact ⟨Or.inr, fun hx => hx.elim (fun e => by rw [e]; simpa using h) fun hl => hl⟩
  · simp [or_comm]

mutual
theorem applyFangs_allIds (id : Nat) (S : Nat → Prop) : ∀ t : BN, AllIds S t → AllIds (fun x => x = id ∨ S x) (applyFangs id t)
  | .mk _ f _ ks, h =>
    ⟨fun x hx => ((mem_addFang f id x).mp hx).imp_right (h.1 x), applyKids_allIds id S ks h.2⟩
theorem applyKids_allIds (id : Nat) (S : Nat → Prop) : ∀ ks : List BN, AllIdsKids S ks → AllIdsKids (fun x => x = id ∨ S x) (applyKids id ks)
  | [], _ => trivial
  | k :: ks, h => ⟨applyFangs_allIds id S k h.1, applyKids_allIds id S ks h.2⟩
end

/-- the answer of a trie into which `mounts` were grafted one after the other: under the first prefix that contains the path the chain
    of that mount (innermost first), and under no prefix what the trie answered before, `d` -/
def mountsScope (d : List Bytes → List Nat) : List (Route × App) → List Bytes → List Nat
  | [], ss => d ss
  | (r, a) :: rest, ss =>
    match segUnder r ss with
    | some ss' => (scopeChain a ss').reverse
    | none => mountsScope d rest ss

theorem mountsScope_of_nil (d : List Bytes → List Nat) (hd : ∀ ss, d ss = []) : ∀ (mounts : List (Route × App)) (ss : List Bytes),
    mountsScope d mounts ss = (scopeMounts mounts ss).reverse := by
  intro mounts ss
  fun_induction mountsScope d mounts ss <;> simp [scopeMounts, *]

/-- a path lies under at most one of two prefixes that do not conflict either way -/
theorem segUnder_excl : ∀ (r q : Route) (ss : List Bytes), conflict r q = false → conflict q r = false →
    (segUnder r ss).isSome → segUnder q ss = none
  | [], _, _, h, _, _ => by simp [conflict] at h
  | _ :: _, [], _, _, h, _ => by simp [conflict] at h
  | _ :: _, _ :: _, [], _, _, h => by simp [segUnder] at h
  | a :: r, b :: q, s0 :: ss, h1, h2, h3 => by
    rw [segUnder_cons] at h3 ⊢
    obtain ⟨c1, c2⟩ := conflict_cons a b r q h1
    by_cases hm : segMatch a s0 = true
    · simp only [hm, if_true] at h3
      by_cases hab : a = b
      · subst hab
        simp only [hm, if_true]
        exact segUnder_excl r q ss (c1 rfl) ((conflict_cons a a q r h2).1 rfl) h3
      · -- different patterns that do not overlap: `b` cannot match the segment that `a` matches
        have hb : ¬ segMatch b s0 = true := fun hb => by
          have := overlap_of_match (some a) (some b) s0 (by simpa using hm) (by simpa using hb)
          simp [overlap, c2 hab] at this
        simp [hb]
    · simp [hm] at h3

/-- the graft at `r` may be read before the other mounts: a default that answers `c` under `r` passes through `mountsScope`, because a path
    under another mount's prefix is not under `r` (`segUnder_excl`) -/
theorem mountsScope_shift (r : Route) (c : List Bytes → List Nat) (d d' : List Bytes → List Nat)
    (hd : ∀ ss, d' ss = match segUnder r ss with | some ss' => c ss' | none => d ss) :
    ∀ (rest : List (Route × App)), (∀ m ∈ rest, conflict r m.1 = false ∧ conflict m.1 r = false) → ∀ ss,
      mountsScope d' rest ss = match segUnder r ss with | some ss' => c ss' | none => mountsScope d rest ss
  | [], _, ss => by simp only [mountsScope]; exact hd ss
  | (q, b) :: rest, hdv, ss => by
    simp only [mountsScope]
    cases hq : segUnder q ss with
    | some ss' =>
      have := hdv (q, b) (by simp)
      simp [segUnder_excl q r ss this.2 this.1 (by simp [hq])]
    | none => exact mountsScope_shift r c d d' hd rest (fun m hm => hdv m (by simp [hm])) ss

theorem sideCond_unfold (id : Nat) (hf : Bool) (routes : List (Route × Nat)) (mounts : List (Route × App))
    (h : sideCond (.mk id hf routes mounts) = true) :
    (∀ m ∈ mounts, ∀ rh ∈ routes, conflict m.1 rh.1 = false) ∧
    (mounts.map (·.1)).Pairwise (fun a b => conflict a b = false ∧ conflict b a = false) ∧
    sideMounts mounts = true := by
  simp only [sideCond, Bool.and_eq_true, List.all_eq_true, Bool.not_eq_true', decide_eq_true_eq] at h
  refine ⟨fun m hm rh hrh => h.1.1 m hm rh hrh, ?_, h.2⟩
  exact h.1.2.imp (fun hab => by simpa using hab)

mutual
/-- **The registration trie carries exactly the scope chain.** -/
theorem scope_build : ∀ (cfg : App) (t : BN), sideCond cfg = true → (idsOf cfg).Nodup → build cfg = some t →
    TreeOK t ∧ ND t ∧ Good t ∧ AllIds (· ∈ idsOf cfg) t ∧ ∀ ss, scopeBN t ss = (scopeChain cfg ss).reverse
  | .mk id hasFangs routes mounts, t, hsc, hids, hb => by
    refine ⟨(routes_build _ t hb).2, nd_build _ t hb, ?_⟩
    obtain ⟨hc1, hc2, hc3⟩ := sideCond_unfold id hasFangs routes mounts hsc
    simp only [build, Option.bind_eq_bind, Option.bind_eq_some_iff, Option.pure_def, Option.some.injEq] at hb
    obtain ⟨t1, h1, t2, h2, rfl⟩ := hb
    simp only [idsOf, List.nodup_cons] at hids
    -- after the routes: no fangs anywhere, and every mount prefix still free
    have hok1 : TreeOK t1 := (treeOK_iff t1).mpr (every_routes okL_closed routes t1 (fun _ _ _ _ => trivial) h1)
    have hnd1 : ND t1 := (nd_iff t1).mpr (every_routes nodup_closed routes t1 (fun _ _ _ _ => trivial) h1)
    have hfl1 : Flat [] t1 := foldlM_inv _ (Flat []) routes _ t1
      (fun rh _ t t' ht h => flat_mergeAt_leaf rh.1 t t' _ ht h) (by simp [Flat, FlatKids]) h1
    have hfree1 : ∀ m ∈ mounts, Free m.1 t1 := fun m hm => foldlM_inv _ (Free m.1) routes _ t1
      (fun rh hrh t t' ht h => free_mergeAt m.1 rh.1 t _ t' ht (hc1 m hm rh hrh) (Or.inr ⟨_, rfl⟩) h) (free_empty none m.1) h1
    -- the mounts, into that trie (no fang id seen so far)
    obtain ⟨_, _, hg2, hid2, hs2⟩ := scope_buildMounts mounts t1 t2 (fun _ => False) hc3 hids.2 hc2 hok1 hnd1
      (good_of_flat [] List.nodup_nil t1 hfl1) (allIds_of_flat_nil _ t1 hfl1) hfree1 h2
    have hid2' : AllIds (· ∈ idsOfMounts mounts) t2 := allIds_mono _ _ (fun x hx => hx.resolve_left not_false) t2 hid2
    have hs2' : ∀ ss, scopeBN t2 ss = (scopeMounts mounts ss).reverse := fun ss =>
      (hs2 ss).trans (mountsScope_of_nil _ (fun ss' => scopeBN_flat [] t1 ss' hfl1) mounts ss)
    -- the application's own id, distinct from all below, goes to the outer end of every list
    cases hasFangs with
    | true =>
      simp only [if_true]
      refine ⟨applyFangs_good id _ hids.1 t2 hg2 hid2', ?_, ?_⟩
      · exact allIds_mono _ _ (fun x hx => List.mem_cons.mpr hx) _ (applyFangs_allIds id _ t2 hid2')
      · intro ss
        rw [applyFangs_scope id _ hids.1 t2 ss hid2', hs2' ss]
        simp [scopeChain]
    | false =>
      simp only [Bool.false_eq_true, if_false]
      refine ⟨hg2, ?_, ?_⟩
      · exact allIds_mono _ _ (fun x hx => List.mem_cons_of_mem id hx) _ hid2'
      · intro ss
        rw [hs2' ss]
        simp [scopeChain]
theorem scope_buildMounts : ∀ (mounts : List (Route × App)) (t t' : BN) (P : Nat → Prop), sideMounts mounts = true →
    (idsOfMounts mounts).Nodup →
    (mounts.map (·.1)).Pairwise (fun a b => conflict a b = false ∧ conflict b a = false) →
    TreeOK t → ND t → Good t → AllIds P t → (∀ m ∈ mounts, Free m.1 t) → buildMounts t mounts = some t' →
    TreeOK t' ∧ ND t' ∧ Good t' ∧ AllIds (fun x => P x ∨ x ∈ idsOfMounts mounts) t' ∧
      ∀ ss, scopeBN t' ss = mountsScope (scopeBN t) mounts ss
  | [], t, t', P, _, _, _, hok, hnd, hg, hid, _, h => by
    simp only [buildMounts, Option.some.injEq] at h
    subst h
    exact ⟨hok, hnd, hg, allIds_mono _ _ (fun x hx => Or.inl hx) t hid, fun ss => rfl⟩
  | (r, a) :: rest, t, t', P, hsm, hids, hpw, hok, hnd, hg, hid, hfree, h => by
    simp only [buildMounts, Option.bind_eq_bind, Option.bind_eq_some_iff] at h
    obtain ⟨sub, hs, t1, h1, h2⟩ := h
    simp only [sideMounts, Bool.and_eq_true] at hsm
    simp only [idsOfMounts] at hids
    obtain ⟨hidsA, hidsR, _⟩ := List.nodup_append.mp hids
    obtain ⟨hoks, hnds, hgs, hida, hsa⟩ := scope_build a sub hsm.1 hidsA hs
    simp only [List.map_cons, List.pairwise_cons] at hpw
    -- the first mount: its trie is grafted at its prefix, which is free
    obtain ⟨m1, m2, m4⟩ := mount_mergeAt r t sub t1 hnd hg (hfree (r, a) (by simp)) hoks hnds hgs h1
    have hok1 := treeOK_mergeAt r t sub t1 hok hoks h1
    have hnd1 := nd_mergeAt r t sub t1 hnd hnds h1
    -- the other prefixes do not conflict with it, so they stay free
    have hdv : ∀ m ∈ rest, conflict r m.1 = false ∧ conflict m.1 r = false := fun m hm =>
      hpw.1 m.1 (List.mem_map.mpr ⟨m, hm, rfl⟩)
    have hfree1 : ∀ m ∈ rest, Free m.1 t1 := fun m hm =>
      free_mergeAt m.1 r t sub t1 (hfree m (by simp [hm])) (hdv m hm).2 (Or.inl (hdv m hm).1) h1
    let Q : Nat → Prop := fun x => P x ∨ x ∈ idsOf a
    have hid1 : AllIds Q t1 := m4 Q (allIds_mono _ _ (fun x hx => Or.inl hx) t hid) (allIds_mono _ _ (fun x hx => Or.inr hx) sub hida)
    obtain ⟨hok', hnd', hg', hid', hs'⟩ := scope_buildMounts rest t1 t' Q hsm.2 hidsR hpw.2 hok1 hnd1 m1 hid1 hfree1 h2
    refine ⟨hok', hnd', hg', allIds_mono _ _ ?_ t' hid', ?_⟩
    · intro x hx
      simp only [idsOfMounts, List.mem_append]
      exact hx.elim (fun h => h.elim Or.inl fun h => Or.inr (Or.inl h)) fun h => Or.inr (Or.inr h)
    · -- a path under `r` is under no other prefix, so the graft at `r` may be read first
      intro ss
      rw [hs' ss]
      simp only [mountsScope]
      rw [mountsScope_shift r (scopeBN sub) (scopeBN t) (scopeBN t1) m2 rest hdv ss]
      cases segUnder r ss with
      | some ss' => exact hsa ss'
      | none => rfl
end

end Ohkami.Fangs
