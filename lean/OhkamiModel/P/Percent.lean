import OhkamiModel.Basic
/-! percent-encoding (NON_ALPHANUMERIC set) and percent-decoding, with the round trip (shared by C07, C09, C11 and the accessors of C02). -/
namespace Ohkami.Percent

def isAlnum (b : UInt8) : Bool := (48 ≤ b && b ≤ 57) || (65 ≤ b && b ≤ 90) || (97 ≤ b && b ≤ 122)
def PCT : UInt8 := 37

-- upper-case hex digit, as `percent_encoding` prints
def hexU (n : Nat) : UInt8 := if n < 10 then (48 + n).toUInt8 else (55 + n).toUInt8
-- `percent_decode` accepts both cases
def unhex (b : UInt8) : Option Nat :=
  if 48 ≤ b ∧ b ≤ 57 then some (b.toNat - 48)
  else if 65 ≤ b ∧ b ≤ 70 then some (b.toNat - 55)
  else if 97 ≤ b ∧ b ≤ 102 then some (b.toNat - 87)
  else none

def encode : Bytes → Bytes
  | [] => []
  | b :: bs => if isAlnum b then b :: encode bs else PCT :: hexU (b.toNat / 16) :: hexU (b.toNat % 16) :: encode bs

-- `%XY` with two hex digits is a byte; anything else is copied (a lone `%` stays)
def decode : Bytes → Bytes
  | [] => []
  | [b] => [b]
  | [b, c] => [b, c]
  | b :: tl@(h :: l :: rest) =>
    if b = PCT then
      match unhex h, unhex l with
      | some x, some y => (x * 16 + y).toUInt8 :: decode rest
      | _, _ => b :: decode tl
    else b :: decode tl

theorem unhex_hexU : ∀ n : Fin 16, unhex (hexU n.val) = some n.val := by decide

theorem hexU_alnum : ∀ n : Fin 16, isAlnum (hexU n.val) = true := by decide

theorem byte_split : ∀ b : UInt8, ((b.toNat / 16) * 16 + b.toNat % 16).toUInt8 = b := by
  intro b
  have : b.toNat / 16 * 16 + b.toNat % 16 = b.toNat := by omega
  rw [this]
  cases b; simp [Nat.toUInt8, UInt8.toNat]

theorem pct_not_alnum : isAlnum PCT = false := by decide

theorem decode_cons_ne (b : UInt8) (bs : Bytes) (hb : b ≠ PCT) : decode (b :: bs) = b :: decode bs := by
  match bs with
  | [] | [c] => simp [decode]
  | h :: l :: rest => rw [decode, if_neg hb]

theorem decode_encode : ∀ bs : Bytes, decode (encode bs) = bs := by
  intro bs
  fun_induction encode bs with
  | case1 => rw [decode]
  | case2 b bs ha ih =>
    have hb : b ≠ PCT := fun e => by rw [e, pct_not_alnum] at ha; cases ha
    rw [decode_cons_ne b _ hb, ih]
  | case3 b bs ha ih =>
    have hlt : b.toNat < 256 := b.toNat_lt
    have h1 := unhex_hexU ⟨b.toNat / 16, by omega⟩
    have h2 := unhex_hexU ⟨b.toNat % 16, by omega⟩
    simp only at h1 h2
    rw [decode, if_pos rfl]
    simp only [h1, h2, ih, byte_split]

theorem encode_alphabet : ∀ (bs : Bytes) (x : UInt8), x ∈ encode bs → isAlnum x = true ∨ x = PCT := by
  intro bs x
  fun_induction encode bs with
  | case1 => exact nofun
  | case2 b bs ha ih =>
    rintro (_ | ⟨_, h⟩)
    · exact .inl ha
    · exact ih h
  | case3 b bs ha ih =>
    have hlt : b.toNat < 256 := b.toNat_lt
    simp only [List.mem_cons]
    rintro (rfl | rfl | rfl | h)
    · exact .inr rfl
    · exact .inl (hexU_alnum ⟨b.toNat / 16, by omega⟩)
    · exact .inl (hexU_alnum ⟨b.toNat % 16, by omega⟩)
    · exact ih h

theorem encode_all {p : UInt8 → Prop} (ha : ∀ x, isAlnum x = true → p x) (hp : p PCT) (bs : Bytes) :
    ∀ x ∈ encode bs, p x :=
  fun x hx => (encode_alphabet bs x hx).elim (ha x) (· ▸ hp)

theorem decode_length_le (bs : Bytes) : (decode bs).length ≤ bs.length := by
  fun_induction decode bs with
  | case1 | case2 | case3 => exact Nat.le_refl _
  | case4 | case5 | case6 =>
    -- a byte is copied, or one is written for three
    simp only [List.length_cons] at *
    omega

end Ohkami.Percent
