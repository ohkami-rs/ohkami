import OhkamiModel.P.FangsScope
/-! What `finalize` (F2, `router/final.rs`) makes of a node of the registration trie: the end of a chain of only-child static nodes.
    Its pattern is the node's own segment followed by the chain's; its fang list, handler and children are those of the chain's end.
    The loop `finalize.compress` is unfolded in `compress_chain` only. -/
namespace Ohkami.Fangs
open Ohkami

def CN.pats : CN → List Seg | .mk ps _ _ _ => ps

@[simp] theorem CN.pats_mk (ps : List Seg) (f : List Nat) (h : Option Nat) (ks : List CN) : (CN.mk ps f h ks).pats = ps := rfl

theorem kid_pat {ks : List BN} {k : BN} (hok : OKL (pats ks)) (hk : k ∈ ks) : ∃ sk, k.pat = some sk :=
  Option.isSome_iff_exists.mp (hok _ (List.mem_map_of_mem hk))

theorem Every.kid {L : List (Option Seg) → Prop} {p : Option Seg} {f : List Nat} {h : Option Nat} {ks : List BN} {k : BN}
    (he : Every L (.mk p f h ks)) (hk : k ∈ ks) : Every L k :=
  (everyKids_iff_forall ks).mp he.2 k hk

def inhKids (f : List Nat) (ks : List BN) : List BN := ks.map fun k => BN.mk k.pat (inherit k.fangs f) k.handler k.kids

theorem routesOfKids_inhKids (f : List Nat) (ks : List BN) : routesOfKidsBN (inhKids f ks) = routesOfKidsBN ks := by
  simp only [routesOfKids_eq, inhKids, List.flatMap_map]
  congr 1
  funext k
  cases k; rfl

theorem pats_inhKids (f : List Nat) (ks : List BN) : pats (inhKids f ks) = pats ks := by
  simp [pats, inhKids, Function.comp_def, BN.pat]

theorem every_inhKids {L : List (Option Seg) → Prop} {p : Option Seg} {f : List Nat} {h : Option Nat} {ks : List BN} (g : List Nat)
    (hk : Every L (.mk p f h ks)) : Every L (.mk p f h (inhKids g ks)) := by
  refine ⟨by rw [pats_inhKids]; exact hk.1, ?_⟩
  rw [everyKids_iff_forall]
  intro k hk'
  obtain ⟨⟨p', f', h', ks'⟩, ha, rfl⟩ := List.mem_map.mp hk'
  exact (hk.kid ha : Every L (.mk p' f' h' ks'))

theorem filter_notin_self (f : List Nat) : f.filter (fun id => !f.contains id) = [] := by
  rw [List.filter_eq_nil_iff]
  intro a ha
  simp [ha]

theorem inherit_ext (e f : List Nat) (h : (e ++ f).Nodup) : inherit (e ++ f) f = e ++ f := by
  simp only [inherit, List.filter_append, filter_notin_self, List.append_nil]
  congr 1
  rw [List.filter_eq_self]
  intro a ha
  have := (List.nodup_append.mp h).2.2 a ha
  simp only [List.contains_eq_mem, Bool.not_eq_eq_eq_not, Bool.not_true, decide_eq_false_iff_not]
  intro hf
  exact this a hf rfl

theorem inhKids_good (f : List Nat) (ks : List BN) (h : GoodKids f ks) : inhKids f ks = ks := by
  rw [goodKids_iff_forall] at h
  refine (List.map_congr_left fun k hk => ?_).trans (List.map_id' ks)
  obtain ⟨⟨e, he⟩, hg⟩ := h k hk
  obtain ⟨p, f', hh, ks'⟩ := k
  have hn : f'.Nodup := hg.1
  simp only [BN.fangs] at he
  subst he
  simp only [BN.pat, BN.fangs, BN.handler, BN.kids, inherit_ext e f hn]

/-- what the `while` of `Node::finalize` walks down from `t` to `e`: only children with static patterns below nodes without handler,
    fang lists of one length, and no step if the node opens a scope (`o`) -/
inductive Chain (o : Bool) : BN → List Seg → BN → Prop
  | nil (t : BN) : Chain o t [] t
  | cons {p : Option Seg} {f f' : List Nat} {c : Bytes} {h' : Option Nat} {ks' : List BN} {chain : List Seg} {e : BN} :
      o = false → f'.length = f.length → Chain o (.mk (some (.static c)) f' h' (inhKids f' ks')) chain e →
      Chain o (.mk p f none [.mk (some (.static c)) f' h' ks']) (.static c :: chain) e

theorem Chain.open_false {o : Bool} {t e : BN} {chain : List Seg} (hc : Chain o t chain e) (hne : chain ≠ []) : o = false := by
  cases hc with
  | nil => exact absurd rfl hne
  | cons ho _ _ => exact ho

/-- `p` is the pattern of the node `finalize` was called on (the loop's condition reads it at every turn), `q` that of the node the loop
    stands at -/
theorem compress_chain (p q : Option Seg) (o : Bool) : ∀ (n : Nat) (ps : List Seg) (f : List Nat) (h : Option Nat) (ks : List BN),
    ∃ chain e, Chain o (.mk q f h ks) chain e ∧
      finalize.compress true p o n ps f h ks = (ps ++ chain, e.fangs, e.handler, e.kids) := by
  intro n ps f h ks
  -- the loop takes a turn in one case only; in the others it stops where it stands, and the chain is empty
  fun_induction finalize.compress true p o n ps f h ks generalizing q
  case case2 n ps f c f' h' ks' hcond f2 ks2 ih =>
    simp only [Bool.not_true, Bool.false_or, Bool.and_eq_true, Bool.not_eq_eq_eq_not, beq_iff_eq] at hcond
    obtain ⟨chain, e, hc, he⟩ := ih (some (.static c))
    exact ⟨.static c :: chain, e, .cons hcond.2.1 hcond.2.2 hc, by simpa using he⟩
  all_goals exact ⟨[], _, .nil _, by simp [BN.fangs, BN.handler, BN.kids]⟩

def sortKids (ks : List BN) : List BN := ks.filter (fun k => isStatic k.pat) ++ ks.filter (fun k => !isStatic k.pat)

theorem mem_sortKids (ks : List BN) (k : BN) : k ∈ sortKids ks ↔ k ∈ ks := by
  simp only [sortKids, List.mem_append, List.mem_filter]
  cases isStatic k.pat <;> simp

theorem find?_unique {α : Type} {l : List α} {q : α → Bool} {k : α} (hk : k ∈ l) (hq : q k = true) (hu : ∀ a ∈ l, q a = true → a = k) :
    l.find? q = some k := by
  cases h : l.find? q with
  | none => simp [List.find?_eq_none.mp h k hk] at hq
  | some a => rw [hu a (List.mem_of_find?_eq_some h) (List.find?_some h)]

/-- among the sorted children the search finds `k`, if every other candidate is a param beside the static `k` -/
theorem find?_sortKids {ks : List BN} {q : BN → Bool} {k : BN} (hk : k ∈ ks) (hq : q k = true)
    (hu : ∀ a ∈ ks, q a = true → a = k ∨ (isStatic a.pat = false ∧ isStatic k.pat = true)) :
    (sortKids ks).find? q = some k := by
  rw [sortKids, List.find?_append, List.find?_filter, List.find?_filter]
  cases hst : isStatic k.pat with
  | true =>
    rw [find?_unique hk (by simp [hst, hq]), Option.some_or]
    intro a ha h
    simp only [decide_eq_true_eq] at h
    exact (hu a ha h.2).resolve_right fun he => by simp [h.1] at he
  | false =>
    have hu' : ∀ a ∈ ks, q a = true → a = k := fun a ha h => (hu a ha h).resolve_right fun he => by simp [hst] at he
    rw [List.find?_eq_none.mpr, Option.none_or, find?_unique hk (by simp [hst, hq])]
    · intro a ha h
      simp only [decide_eq_true_eq] at h
      exact hu' a ha h.2
    · intro a ha h
      simp only [decide_eq_true_eq] at h
      rw [hu' a ha h.2, hst] at h
      cases h.1

/-- a child finalized under its parent's fang list `f` (`opens_scope`: the child has fangs its parent has not) -/
abbrev fin (F : Nat) (f : List Nat) (k : BN) : CN := finalize true F k (k.fangs.length != f.length)

/-- the children of a finalized node whose chain ends at `e` -/
def finKids : Nat → BN → List CN
  | 0, _ => []
  | F + 1, e => (sortKids e.kids).map (fin F e.fangs)

theorem mem_finKids {F : Nat} {e : BN} {K : CN} (h : K ∈ finKids F e) : ∃ F' k, F = F' + 1 ∧ k ∈ e.kids ∧ K = fin F' e.fangs k := by
  cases F with
  | zero => cases h
  | succ F =>
    obtain ⟨k, hk, rfl⟩ := List.mem_map.mp h
    exact ⟨F, k, rfl, (mem_sortKids _ k).mp hk, rfl⟩

theorem finalize_eq (F : Nat) (p : Option Seg) (f : List Nat) (h : Option Nat) (ks : List BN) (o : Bool) :
    ∃ chain e, Chain o (.mk p f h (inhKids f ks)) chain e ∧
      finalize true F (.mk p f h ks) o = .mk (p.toList ++ chain) e.fangs e.handler (finKids F e) := by
  cases F with
  | zero => exact ⟨[], _, .nil _, by simp [finalize, finKids, BN.fangs, BN.handler]⟩
  | succ F =>
    obtain ⟨chain, e, hc, he⟩ := compress_chain p p o F p.toList f h (inhKids f ks)
    refine ⟨chain, e, hc, ?_⟩
    simp only [inhKids] at he
    simp [finalize, he, sortKids, finKids]

theorem pats_finalize (F : Nat) (k : BN) (o : Bool) : ∃ chain, (finalize true F k o).pats = k.pat.toList ++ chain := by
  obtain ⟨p, f, h, ks⟩ := k
  obtain ⟨chain, e, _, hfin⟩ := finalize_eq F p f h ks o
  exact ⟨chain, by rw [hfin]; rfl⟩

theorem Chain.routes {o : Bool} {t e : BN} {chain : List Seg} (hc : Chain o t chain e) :
    routesOfBN t = under chain (routesOfBN e) := by
  induction hc with
  | nil t => exact (under_nil _).symm
  | cons _ _ _ ih =>
    simp only [routesOfBN, routesOfKids_inhKids] at ih
    simp [routesOfBN, routesOfKidsBN, BN.pat, ih, under]

theorem Chain.mem_routes {o : Bool} {p : Option Seg} {f : List Nat} {h : Option Nat} {ks : List BN} {e : BN} {chain : List Seg}
    (hc : Chain o (.mk p f h (inhKids f ks)) chain e) {r : Route} {x : Nat} :
    (r, x) ∈ routesOfBN (.mk p f h ks) ↔ ∃ r', r = chain ++ r' ∧ (r', x) ∈ routesOfBN e := by
  have := hc.routes
  simp only [routesOfBN, routesOfKids_inhKids] at this
  simp only [routesOfBN, this, under, List.mem_map, Prod.mk.injEq, Prod.exists]
  exact ⟨fun ⟨r', _, hm, he, hx⟩ => ⟨r', he.symm, hx ▸ hm⟩, fun ⟨r', he, hm⟩ => ⟨r', x, hm, he.symm, rfl⟩⟩

theorem Chain.every {L : List (Option Seg) → Prop} {o : Bool} {t e : BN} {chain : List Seg} (hc : Chain o t chain e)
    (h : Every L t) : Every L e := by
  induction hc with
  | nil t => exact h
  | cons _ _ _ ih => exact ih (every_inhKids _ h.2.1)

theorem firstKid_eq (rest : List Bytes) : ∀ kids : List CN,
    search.firstKid rest kids = (kids.find? fun k => (takePats k.pats rest).isSome).map (·, rest) := by
  intro kids
  fun_induction search.firstKid rest kids <;> simp [*]

/-- what `search` does at a node once the node's pattern is taken -/
def after (G : Nat) (f : List Nat) (h : Option Nat) (kids : List CN) : List Bytes → List Nat × Option Nat
  | [] => (f, h)
  | s :: r =>
    match kids.find? fun k => (takePats k.pats (s :: r)).isSome with
    | some k => search G k (s :: r)
    | none => (f, none)

theorem search_succ (G : Nat) (ps : List Seg) (f : List Nat) (h : Option Nat) (ks : List CN) (ss : List Bytes) :
    search (G + 1) (.mk ps f h ks) ss = match takePats ps ss with
      | none => (f, none)
      | some rest => after G f h ks rest := by
  simp only [search]
  cases takePats ps ss with
  | none => rfl
  | some r =>
    cases r with
    | nil => rfl
    | cons s r => simp only [firstKid_eq, after]; cases List.find? _ ks <;> rfl

theorem search_zero (cn : CN) (ss : List Bytes) : (search 0 cn ss).2 = none := by
  cases cn; rfl

theorem after_finKids (G F : Nat) (p : Option Seg) (f : List Nat) (h : Option Nat) (ks : List BN) (s : Bytes) (r : List Bytes) :
    after G f h (finKids (F + 1) (.mk p f h ks)) (s :: r) =
      match (sortKids ks).find? fun k => (takePats (fin F f k).pats (s :: r)).isSome with
      | some k => search G (fin F f k) (s :: r)
      | none => (f, none) := by
  simp only [after, finKids, BN.kids, BN.fangs, List.find?_map, Function.comp_def]
  cases List.find? _ (sortKids ks) <;> rfl

end Ohkami.Fangs
