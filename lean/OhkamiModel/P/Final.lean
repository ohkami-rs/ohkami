import OhkamiModel.P.Bytes
namespace Ohkami

/-! router/final.rs at byte level -/
inductive RPat where
  | static (bs : Bytes)
  | param
deriving Repr, DecidableEq

inductive RNode where
  | mk (pat : RPat) (handler : Option Nat) (kids : List RNode)
deriving Repr

namespace RNode
def pat : RNode → RPat | mk p _ _ => p
def handler : RNode → Option Nat | mk _ h _ => h
def kids : RNode → List RNode | mk _ _ k => k
end RNode

-- `Pattern::Param` branch of take_through
def takeParam (bytes : Bytes) : Option (Bytes × Bytes) :=
  match bytes with
  | b0 :: b1 :: rest =>
    if b0 = slash ∧ b1 ≠ slash then some (splitNextSection (b1 :: rest)) else none
  | _ => none

-- take_through: remaining bytes, and the captured param if any
def takeF (p : RPat) (bytes : Bytes) : Option (Bytes × Option Bytes) :=
  match p with
  | .static s => (takeStatic true s bytes).map fun rem => (rem, none)
  | .param => (takeParam bytes).map fun (pv, rem) => (rem, some pv)

-- the `for child in target.children` loop: first child whose pattern takes a prefix
def firstMatch : List RNode → Bytes → Option (RNode × Bytes × Option Bytes)
  | [], _ => none
  | k :: ks, bytes =>
    match takeF k.pat bytes with
    | some (rem, pv) => some (k, rem, pv)
    | none => firstMatch ks bytes

-- `'next_target` loop below a node that has been entered with non-empty remaining bytes
def searchBelow : Nat → RNode → Bytes → Option (Nat × List Bytes)
  | 0, _, _ => none
  | fuel + 1, n, bytes =>
    match firstMatch n.kids bytes with
    | none => none
    | some (k, rem, pv) =>
      let r := if rem.isEmpty then k.handler.map fun h => (h, ([] : List Bytes)) else searchBelow fuel k rem
      match pv with
      | some v => r.map fun (h, ps) => (h, v :: ps)
      | none => r

-- `search_target` from the root
def searchTop (fuel : Nat) (root : RNode) (bytes : Bytes) : Option (Nat × List Bytes) :=
  match takeF root.pat bytes with
  | none => none
  | some (rem, _) => if rem.isEmpty then root.handler.map fun h => (h, []) else searchBelow fuel root rem

theorem splitNextSection_seg : ∀ (s U : Bytes), NoSlash s → Slashy U → splitNextSection (s ++ U) = (s, U)
  | [], U, _, hU => by
    rcases hU.cases with rfl | ⟨U', rfl⟩ <;> simp [splitNextSection]
  | a :: s, U, hs, hU => by
    obtain ⟨ha, hs'⟩ := noSlash_cons.mp hs
    simp only [List.cons_append, splitNextSection, if_neg ha, splitNextSection_seg s U hs' hU]

theorem takeParam_join (s : Bytes) (ss : List Bytes) (hs : NoSlash s) :
    takeParam (joinSegs (s :: ss)) = if s ≠ [] then some (s, joinSegs ss) else none := by
  match s, hs with
  | [], _ => cases ss <;> simp [joinSegs, takeParam]
  | a :: s', hs =>
    have := splitNextSection_seg (a :: s') (joinSegs ss) hs (slashy_joinSegs ss)
    simp only [List.cons_append] at this
    simp [joinSegs, takeParam, (noSlash_cons.mp hs).1, this]

theorem takeParam_nil : takeParam [] = none := rfl

end Ohkami
