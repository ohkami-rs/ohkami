import OhkamiModel.P.Percent
/-! Prototype: serde data-model descriptor, visitor acceptance, URL-encoded deserializer core (C08/C09). -/
namespace Ohkami.Serde

inductive Ty where
  | bool
  | uint (bits : Nat) | sint (bits : Nat)
  | float (bits : Nat)
  | char
  | str                         -- `&'de str`: borrowed only
  | string                      -- `String` / `Cow<str>`
  | bytes                       -- `&'de [u8]`
  | byteBuf                     -- `Vec<u8>` via serde_bytes-like visitors
  | option (t : Ty)
  | unit
  | newtype (t : Ty)
  | seq (t : Ty)
  | map (k v : Ty)
  | struct (fields : List (Bytes × Ty × Bool))     -- name, type, has #[serde(default)]
  | unitEnum (variants : List Bytes)
  | ignored
deriving Repr

inductive Value where
  | bool (b : Bool) | int (z : Int) | floatText (t : Bytes) | char (c : Nat)
  | str (s : Bytes) | bytes (s : Bytes)
  | none | some (v : Value) | unit | newtype (v : Value)
  | seq (vs : List Value) | map (kvs : List (Value × Value))
  | struct (fs : List (Bytes × Value)) | variant (name : Bytes) | defaulted
deriving Repr

inductive ErrClass where
  | syntax | type | missingField | duplicateField | unknownVariant | trailing | unsupported
deriving Repr, DecidableEq

inductive Outcome (α : Type) where
  | ok (a : α) | err (e : ErrClass) | panic (site : String) | ub (site : String) | unmodelled
deriving Repr

instance : Monad Outcome where
  pure := .ok
  bind x f := match x with
    | .ok a => f a | .err e => .err e | .panic s => .panic s | .ub s => .ub s | .unmodelled => .unmodelled

inductive Side where | key | value deriving DecidableEq, Repr
structure De where
  input : Bytes
  side  : Side
deriving Repr

def AMP : UInt8 := 38
def EQ : UInt8 := 61
def COMMA : UInt8 := 44
def TRUE : Bytes := [116, 114, 117, 101]
def FALSE : Bytes := [102, 97, 108, 115, 101]

def findPunc : Bytes → Option Nat
  | [] => none
  | b :: bs => if b = EQ ∨ b = AMP then some 0 else (findPunc bs).map (· + 1)

-- `next_section` (serde_urlencoded/de.rs:51-79); returns the section and the advanced deserializer
def nextSection (d : De) : Outcome (Bytes × De) :=
  match d.side, findPunc d.input with
  | .key, none => .err .syntax
  | .key, some 0 => .err .syntax
  | .key, some n => if d.input[n]? = some EQ then .ok (d.input.take n, { d with input := d.input.drop n }) else .err .syntax
  | .value, none => .ok (d.input, { d with input := [] })
  | .value, some n => if d.input[n]? = some AMP then .ok (d.input.take n, { d with input := d.input.drop n }) else .err .syntax

-- parameters standing for std / percent-encoding behaviour (hand models in the project)
structure Prims where
  percentDecode : Bytes → Bytes
  validUtf8 : Bytes → Bool
  parseInt : (signed : Bool) → (bits : Nat) → Bytes → Option Int
  floatOk : Bytes → Bool
  utf8Chars : Bytes → Option (List Nat)

variable (P : Prims)

def decodeStr (borrowedOnly : Bool) (sec : Bytes) : Outcome Value :=
  let dec := P.percentDecode sec
  if !P.validUtf8 dec then .err .syntax
  else if borrowedOnly && dec != sec then .err .type     -- visit_string on a `&str` visitor
  else .ok (.str dec)

/-- `unwrapSites = true` is the code with `next_section().unwrap()`, `false` the repaired one (what /repo has). -/
def sectionOr (unwrapSites : Bool) (site : String) (d : De) : Outcome (Bytes × De) :=
  match nextSection d with
  | .err e => if unwrapSites then .panic site else .err e
  | o => o

def splitComma : Bytes → List Bytes
  | [] => [[]]
  | b :: bs =>
    match splitComma bs with
    | [] => [[]]
    | l :: ls => if b = COMMA then [] :: l :: ls else (b :: l) :: ls

def fillMissing : List (Bytes × Ty × Bool) → List (Bytes × Value) → Option (List (Bytes × Value))
  | [], _ => some []
  | (n, t, dflt) :: rest, seen =>
    match seen.find? (·.1 = n), fillMissing rest seen with
    | _, none => none
    | some nv, some fs => some (nv :: fs)
    | none, some fs =>
      (match t with
       | .option _ => some ((n, .none) :: fs)
       | _ => if dflt then some ((n, .defaulted) :: fs) else none)

def lookupField : List (Bytes × Ty × Bool) → Bytes → Option Ty
  | [], _ => none
  | (n, t, _) :: rest, k => if n = k then some t else lookupField rest k

-- one fuel for everything: type nesting and the pair loop; exhaustion is reported apart from the code's outcomes
mutual
def decode (unwrapSites : Bool) : Nat → Ty → De → Outcome (Value × De)
  | 0, _, _ => .unmodelled
  | fuel + 1, ty, d =>
    match ty with
    -- numbers and booleans are read from the percent-decoded section (`%35` is `5`; since fix 2c45ee6)
    | .bool => do
      let (sec, d') ← sectionOr unwrapSites "deserialize_bool" d
      let sec := P.percentDecode sec
      if sec = TRUE then pure (.bool true, d')
      else if sec = FALSE then pure (.bool false, d') else .err .type
    | .uint bits => do
      let (sec, d') ← sectionOr unwrapSites "deserialize_uN" d
      let sec := P.percentDecode sec
      match (if P.validUtf8 sec then P.parseInt false bits sec else none) with
      | some z => pure (.int z, d') | none => .err .type
    | .sint bits => do
      let (sec, d') ← sectionOr unwrapSites "deserialize_iN" d
      let sec := P.percentDecode sec
      match (if P.validUtf8 sec then P.parseInt true bits sec else none) with
      | some z => pure (.int z, d') | none => .err .type
    | .float _ => do
      let (sec, d') ← sectionOr unwrapSites "deserialize_fN" d
      let sec := P.percentDecode sec
      if P.validUtf8 sec && P.floatOk sec then pure (.floatText sec, d') else .err .type
    | .char => do
      let (sec, d') ← nextSection d
      let dec := P.percentDecode sec
      match (if P.validUtf8 dec then P.utf8Chars dec else none) with
      | some [c] => pure (.char c, d') | _ => .err .type
    | .str => do
      let (sec, d') ← nextSection d
      let v ← decodeStr P true sec
      pure (v, d')
    | .string => do
      let (sec, d') ← nextSection d
      let v ← decodeStr P false sec
      pure (v, d')
    | .bytes => do
      let (sec, d') ← sectionOr unwrapSites "deserialize_bytes" d
      let dec := P.percentDecode sec
      if dec != sec then .err .type else pure (.bytes dec, d')
    | .byteBuf => do
      let (sec, d') ← sectionOr unwrapSites "deserialize_bytes" d
      pure (.bytes (P.percentDecode sec), d')
    | .option t =>
      if d.input.isEmpty || d.input.head? == some AMP then .ok (.none, d)
      else do
        let (v, d') ← decode unwrapSites fuel t d
        pure (.some v, d')
    | .unit =>
      if d.input.isEmpty || d.input.head? == some AMP then .ok (.unit, d) else .err .type
    | .newtype t => do
      let (v, d') ← decode unwrapSites fuel t d
      pure (.newtype v, d')
    | .seq t => do
      -- CommaSeparated (after F9a, F9c): the section is split at ',' ; each element is read by a sub-deserializer on the value side
      let (sec, d') ← sectionOr unwrapSites "CommaSeparated::new" d
      if sec.isEmpty then pure (.seq [], d') else
      let vs ← seqLoop unwrapSites fuel t (splitComma sec) []
      pure (.seq vs, d')
    | .map _ vt => mapLoop unwrapSites fuel vt true [] d
    | .unitEnum vs => do
      -- `variant_seed` reads the name through `deserialize_identifier` = `deserialize_str` (fix ca4cc42): percent-decoded, UTF-8
      let (sec, d') ← nextSection d
      let v ← decodeStr P false sec
      match v with
      | .str n => if vs.contains n then pure (.variant n, d') else .err .unknownVariant
      | _ => .err .type
    | .ignored =>
      match nextSection d with
      | .ok (_, d') => .ok (.unit, { d' with side := .key })
      | _ => .ok (.unit, { d with side := .key })
    | .struct fields => structLoop unwrapSites fuel fields true [] d
def seqLoop (unwrapSites : Bool) : Nat → Ty → List Bytes → List Value → Outcome (List Value)
  | 0, _, _, _ => .unmodelled
  | _, _, [], acc => .ok acc
  | fuel + 1, t, e :: es, acc => do
    let (v, _) ← decode unwrapSites fuel t ⟨e, .value⟩
    seqLoop unwrapSites fuel t es (acc ++ [v])
-- `visit_map` into a string-keyed map (later keys overwrite)
def mapLoop (unwrapSites : Bool) : Nat → Ty → Bool → List (Value × Value) → De → Outcome (Value × De)
  | 0, _, _, _, _ => .unmodelled
  | fuel + 1, vt, first, acc, d =>
    if d.input.isEmpty then .ok (.map acc, d)
    else do
      let d1 ← (if first then pure d else
        match d.input with
        | b :: rest => if b = AMP then pure { d with input := rest } else (.err .syntax : Outcome De)
        | [] => .err .syntax)
      let (kv, d2) ← decode unwrapSites fuel .string { d1 with side := .key }
      match d2.input with
      | b :: rest =>
        if b ≠ EQ then .err .syntax else do
          let (v, d4) ← decode unwrapSites fuel vt { input := rest, side := .value }
          mapLoop unwrapSites fuel vt false (acc.filter (fun p => toString (repr p.1) != toString (repr kv)) ++ [(kv, v)]) d4
      | [] => .err .syntax
-- `visit_map` of a derived struct visitor over `AmpersandSeparated`
def structLoop (unwrapSites : Bool) : Nat → List (Bytes × Ty × Bool) → Bool → List (Bytes × Value) → De → Outcome (Value × De)
  | 0, _, _, _, _ => .unmodelled
  | fuel + 1, fields, first, acc, d =>
    if d.input.isEmpty then
      -- end of the map: a field that was not seen is `None` for an Option, its default if it has one, else an error
      match fillMissing fields acc with
      | some fs => .ok (.struct fs, d)
      | none => .err .missingField
    else do
      let d1 ← (if first then pure d else
        match d.input with
        | b :: rest => if b = AMP then pure { d with input := rest } else (.err .syntax : Outcome De)
        | [] => .err .syntax)
      let (ksec, d2) ← nextSection { d1 with side := .key }
      let kdec := P.percentDecode ksec
      if !P.validUtf8 kdec then .err .syntax else
      match d2.input with
      | b :: rest =>
        if b ≠ EQ then .err .syntax else
        let d3 : De := { input := rest, side := .value }
        match lookupField fields kdec with
        | some t =>
          if acc.any (·.1 = kdec) then .err .duplicateField else do
            let (v, d4) ← decode unwrapSites fuel t d3
            structLoop unwrapSites fuel fields false (acc ++ [(kdec, v)]) d4
        | none => do
            let (_, d4) ← decode unwrapSites fuel .ignored d3
            structLoop unwrapSites fuel fields false acc d4
      | [] => .err .syntax
end

end Ohkami.Serde
