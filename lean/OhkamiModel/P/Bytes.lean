import OhkamiModel.P.TrieProofs
namespace Ohkami

/-! byte level: paths as `/s1/s2/…`, static patterns as byte strings, `take_through` with the segment boundary (F1) -/

def joinSegs : List Bytes → Bytes
  | [] => []
  | s :: ss => slash :: (s ++ joinSegs ss)

def NoSlash (s : Bytes) : Prop := slash ∉ s

def Slashy (b : Bytes) : Prop := b = [] ∨ b.head? = some slash

theorem slashy_joinSegs (ss : List Bytes) : Slashy (joinSegs ss) := by
  cases ss with
  | nil => left; rfl
  | cons s ss => right; simp [joinSegs]

theorem Slashy.cases {b : Bytes} (h : Slashy b) : b = [] ∨ ∃ b', b = slash :: b' := by
  match b, h with
  | [], _ => exact .inl rfl
  | x :: b', h => exact .inr ⟨b', by simpa [Slashy] using h⟩

theorem noSlash_cons {a : UInt8} {s : Bytes} : NoSlash (a :: s) ↔ a ≠ slash ∧ NoSlash s := by
  simp [NoSlash, eq_comm]

theorem joinSegs_append (a b : List Bytes) : joinSegs (a ++ b) = joinSegs a ++ joinSegs b := by
  induction a with
  | nil => simp [joinSegs]
  | cons s a ih => simp [joinSegs, ih]

-- `Pattern::Static` branch of take_through: byte prefix, and (F1) the rest is empty or starts with '/'
def takeStatic (boundary : Bool) (pat bytes : Bytes) : Option Bytes :=
  if pat.isPrefixOf bytes then
    let rem := bytes.drop pat.length
    if boundary && !(rem.isEmpty || rem.head? == some slash) then none else some rem
  else none

theorem takeStatic_cons_cons (b : Bool) (x y : UInt8) (p q : Bytes) :
    takeStatic b (x :: p) (y :: q) = if x = y then takeStatic b p q else none := by
  by_cases h : x = y <;> simp [takeStatic, List.isPrefixOf, h]

theorem takeStatic_cons_nil (b : Bool) (x : UInt8) (p : Bytes) : takeStatic b (x :: p) [] = none := by
  simp [takeStatic, List.isPrefixOf]

theorem takeStatic_nil_cons (y : UInt8) (q : Bytes) :
    takeStatic true [] (y :: q) = if y = slash then some (y :: q) else none := by
  by_cases h : y = slash <;> simp [takeStatic, h]

theorem takeStatic_nil_slashy (B : Bytes) (h : Slashy B) : takeStatic true [] B = some B := by
  rcases h.cases with rfl | ⟨B', rfl⟩
  · rfl
  · simp [takeStatic_nil_cons]

theorem takeStatic_seg : ∀ (c s T U : Bytes), NoSlash c → NoSlash s → Slashy T → Slashy U →
    takeStatic true (c ++ T) (s ++ U) = if c = s then takeStatic true T U else none
  | [], [], T, U, _, _, _, _ => by simp
  | [], b :: s, T, U, _, hs, hT, _ => by
    -- the pattern's segment ends inside the path's segment `b :: s`: what follows in the path is not '/'
    obtain ⟨hb, _⟩ := noSlash_cons.mp hs
    rcases hT.cases with rfl | ⟨T', rfl⟩
    · simp [takeStatic_nil_cons, hb]
    · simp [takeStatic_cons_cons, Ne.symm hb]
  | a :: c, [], T, U, hc, _, _, hU => by
    -- the path's segment ends inside the pattern's segment `a :: c`: the pattern goes on with a byte that is not '/'
    obtain ⟨ha, _⟩ := noSlash_cons.mp hc
    rcases hU.cases with rfl | ⟨U', rfl⟩
    · simp [takeStatic_cons_nil]
    · simp [takeStatic_cons_cons, ha]
  | a :: c, b :: s, T, U, hc, hs, hT, hU => by
    simp only [List.cons_append, takeStatic_cons_cons, List.cons.injEq,
      takeStatic_seg c s T U (noSlash_cons.mp hc).2 (noSlash_cons.mp hs).2 hT hU]
    by_cases hab : a = b <;> simp [hab]

theorem takeStatic_chain : ∀ (cs segs : List Bytes), (∀ c ∈ cs, NoSlash c) → (∀ s ∈ segs, NoSlash s) →
    takeStatic true (joinSegs cs) (joinSegs segs) =
      if cs.isPrefixOf segs then some (joinSegs (segs.drop cs.length)) else none := by
  intro cs
  induction cs with
  | nil =>
    intro segs _ _
    simp only [joinSegs, List.isPrefixOf, if_true, List.length_nil, List.drop_zero]
    exact takeStatic_nil_slashy _ (slashy_joinSegs segs)
  | cons c cs' ih =>
    intro segs hc hs
    cases segs with
    | nil => simp [joinSegs, takeStatic_cons_nil, List.isPrefixOf]
    | cons s ss =>
      simp only [joinSegs, takeStatic_cons_cons, if_true]
      rw [takeStatic_seg c s _ _ (hc c (by simp)) (hs s (by simp)) (slashy_joinSegs _) (slashy_joinSegs _)]
      rw [ih ss (fun x hx => hc x (by simp [hx])) (fun x hx => hs x (by simp [hx]))]
      by_cases hcs : c = s
      · subst hcs; simp [List.isPrefixOf]
      · simp [List.isPrefixOf, hcs]

-- the defect F1 repairs, on the property's own example: without the boundary the pattern `/users` eats `/users2`
example : takeStatic false [47, 117, 115, 101, 114, 115] [47, 117, 115, 101, 114, 115, 50] = some [50] := by decide   -- "/users" vs "/users2"
example : takeStatic true [47, 117, 115, 101, 114, 115] [47, 117, 115, 101, 114, 115, 50] = none := by decide

end Ohkami
