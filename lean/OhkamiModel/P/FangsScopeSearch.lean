import OhkamiModel.P.FangsScopeBuild
import OhkamiModel.P.FangsFinal
/-! C04, scope: the search of the finalized (inheriting, compressed, statics-first) router answers every path with the fang list that
    the walk of the registration trie yields, hence (`scope_build`) with exactly the chain of applications whose mount prefix contains
    the path. -/
namespace Ohkami.Fangs
open Ohkami

theorem eq_of_ext_of_length {f g e : List Nat} (he : g = e ++ f) (hl : g.length = f.length) : g = f := by
  subst he
  rw [List.length_append] at hl
  rw [List.append_left_eq_self, ← List.length_eq_zero_iff]
  omega

/-- walk and chain go together down to `e`; a path that leaves the chain midway gets `t`'s list, which every node of the chain carries -/
theorem Chain.scope {o : Bool} {t e : BN} {chain : List Seg} (hc : Chain o t chain e) (hg : Good t) :
    e.fangs = t.fangs ∧ Good e ∧ ∀ ss, scopeBN t ss = match takePats chain ss with
      | some rest => scopeBN e rest
      | none => t.fangs := by
  induction hc with
  | nil t => exact ⟨rfl, hg, fun ss => by simp [takePats]⟩
  | @cons p f f' c h' ks' chain e _ hlen _ ih =>
    obtain ⟨_, _, ⟨e0, he0⟩, hgk, _⟩ := hg
    -- the only child extends its parent's list and is as long: it is the same list
    obtain rfl : f' = f := eq_of_ext_of_length he0 hlen
    rw [inhKids_good f' ks' hgk.2.2] at ih
    obtain ⟨e1, e2, e3⟩ := ih hgk
    refine ⟨e1, e2, fun ss => ?_⟩
    cases ss with
    | nil => simp [takePats_cons_nil, scopeBN, BN.fangs]
    | cons s0 rest =>
      have hstep : scopeBN (.mk p f' none [.mk (some (.static c)) f' h' ks']) (s0 :: rest) =
          if segMatch (.static c) s0 then scopeBN (.mk (some (.static c)) f' h' ks') rest else f' := by
        rw [scopeBN, scopeKids, scopeKids]
        rfl
      rw [hstep, takePats_cons]
      split
      · exact e3 rest
      · rfl

theorem takePats_own (k : BN) (sk : Seg) (hp : k.pat = some sk) (s0 : Bytes) (r : List Bytes) :
    takePats k.pat.toList (s0 :: r) = if kidMatches k s0 then some r else none := by
  simp [hp, kidMatches, takePats_cons, takePats]

theorem matches_of_pats (F : Nat) (k : BN) (o : Bool) (sk : Seg) (hp : k.pat = some sk) (s0 : Bytes) (r : List Bytes)
    (h : (takePats (finalize true F k o).pats (s0 :: r)).isSome) : kidMatches k s0 = true := by
  obtain ⟨chain, hc⟩ := pats_finalize F k o
  rw [hc, takePats_append, takePats_own k sk hp] at h
  split at h
  · assumption
  · cases h

/-- a child that matches the segment but is not entered by the search (its compressed pattern fails further down its chain): the walk
    through it ends inside the chain, where every node still carries the parent's list `f` -/
theorem skipped (F : Nat) (f : List Nat) (k : BN) (s0 : Bytes) (r : List Bytes) (hg : Good k) (he : ∃ e, k.fangs = e ++ f)
    (hm : kidMatches k s0 = true) (hn : takePats (fin F f k).pats (s0 :: r) = none) : scopeBN k r = f := by
  obtain ⟨_ | sk, fk, hk, ksk⟩ := k
  · simp [kidMatches, BN.pat] at hm
  have hm' : segMatch sk s0 = true := by simpa [kidMatches, BN.pat] using hm
  obtain ⟨chain, e, hc, hfin⟩ := finalize_eq F (some sk) fk hk ksk (fk.length != f.length)
  rw [inhKids_good fk ksk hg.2.2] at hc
  simp only [fin, BN.fangs, hfin, CN.pats_mk, Option.toList, List.cons_append, List.nil_append, takePats_cons, hm', if_true] at hn
  have hs := (hc.scope hg).2.2 r
  rw [hn] at hs
  -- the chain is not empty, so `k` opens no scope: its list is as long as `f`, which it extends
  have ho := hc.open_false (by rintro rfl; simp [takePats] at hn)
  obtain ⟨e0, he0⟩ := he
  rw [hs]
  exact eq_of_ext_of_length he0 (by simpa [BN.fangs] using ho)

/-- the walk enters the first child that matches, but on a good trie any child that matches gives the same answer: two that one segment
    can both match carry the parent's list throughout -/
theorem scopeKids_pick (f : List Nat) (s0 : Bytes) (r' : List Bytes) : ∀ (ks : List BN),
    ks.Pairwise (fun a b => overlap a.pat b.pat = true → Flat f a ∧ Flat f b) → ∀ k ∈ ks,
    kidMatches k s0 = true → scopeKids f ks s0 r' = scopeBN k r'
  | [], _, k, hk, _ => by cases hk
  | a :: ks, hpw, k, hk, hm => by
    rw [List.pairwise_cons] at hpw
    simp only [scopeKids]
    rcases List.mem_cons.mp hk with rfl | hk'
    · simp [hm]
    · by_cases hma : kidMatches a s0 = true
      · simp only [hma, if_true]
        obtain ⟨fa, fk⟩ := hpw.1 k hk' (overlap_of_match a.pat k.pat s0 hma hm)
        rw [scopeBN_flat f a r' fa, scopeBN_flat f k r' fk]
      · simp only [hma, Bool.false_eq_true, if_false]
        exact scopeKids_pick f s0 r' ks hpw.2 k hk' hm

theorem after_kids (F G : Nat) (p : Option Seg) (f : List Nat) (h : Option Nat) (ks : List BN) (hg : Good (.mk p f h ks)) (hok : OKL (pats ks))
    (s0 : Bytes) (r' : List Bytes)
    (ih : ∀ k ∈ ks, kidMatches k s0 = true → (search G (fin F f k) (s0 :: r')).1 = scopeBN k r') :
    (after G f h (finKids (F + 1) (.mk p f h ks)) (s0 :: r')).1 = scopeKids f ks s0 r' := by
  have hgk := (goodKids_iff_forall f ks).mp hg.2.2
  rw [after_finKids]
  split
  · rename_i k hk
    -- a child is entered: it matches the segment, and on a good trie the walk may enter any child that does
    have hmem := (mem_sortKids ks k).mp (List.mem_of_find?_eq_some hk)
    obtain ⟨sk, hsk⟩ := kid_pat hok hmem
    have hm := matches_of_pats F k _ sk hsk s0 r' (by simpa using List.find?_some hk)
    rw [ih k hmem hm, scopeKids_pick f s0 r' ks hg.2.1 k hmem hm]
  · rename_i hnone
    -- no child is entered: the walk through any child that matches ends inside its chain, with `f`
    rw [List.find?_eq_none] at hnone
    refine (scopeKids_allf f s0 r' ks fun k hk hm => ?_).symm
    exact skipped F f k s0 r' (hgk k hk).2 (hgk k hk).1 hm (by simpa using hnone k ((mem_sortKids ks k).mpr hk))

theorem search_walk : ∀ (F G : Nat) (t : BN) (o : Bool) (ss ss' : List Bytes), Good t → Every OKL t →
    takePats t.pat.toList ss = some ss' → ss'.length + 1 ≤ F → ss'.length + 1 ≤ G →
    (search G (finalize true F t o) ss).1 = scopeBN t ss' := by
  intro F
  induction F with
  | zero => intro G t o ss ss' _ _ _ hF; omega
  | succ F ih =>
    intro G ⟨p, f, h, ks⟩ o ss ss' hg hok hp hF hG
    obtain ⟨G, rfl⟩ : ∃ G', G = G' + 1 := ⟨G - 1, by omega⟩
    -- the finalized node is the end `e` of the chain below `t`; search and walk both take the chain's segments, or stop with `f`
    obtain ⟨chain, e, hc, hfin⟩ := finalize_eq (F + 1) p f h ks o
    rw [inhKids_good f ks hg.2.2] at hc
    obtain ⟨hfe, hge, hsc⟩ := hc.scope hg
    have hoke := hc.every hok
    obtain ⟨pe, fe, he, kse⟩ := e
    simp only [BN.fangs] at hfe
    subst hfe
    simp only [BN.pat] at hp
    rw [hfin, search_succ, takePats_append, hp, hsc ss']
    simp only [Option.bind_some, BN.fangs, BN.handler]
    cases hr : takePats chain ss' with
    | none => rfl
    | some r =>
      have hlen := takePats_len chain ss' r hr
      cases r with
      | nil => rfl
      | cons s1 r1 =>
        simp only [List.length_cons] at hlen
        -- below `e` the search enters a child as the walk does (`after_kids`), and there the induction hypothesis applies
        refine after_kids F G pe fe he kse hge hoke.1 s1 r1 fun k hk hm => ?_
        obtain ⟨sk, hsk⟩ := kid_pat hoke.1 hk
        have hgk := (goodKids_iff_forall fe kse).mp hge.2.2 k hk
        exact ih G k _ (s1 :: r1) r1 hgk.2 (hoke.kid hk) (by rw [takePats_own k sk hsk, hm]; rfl) (by omega) (by omega)

theorem search_scope (F G : Nat) (t : BN) (ss : List Bytes) (hg : Good t) (hok : TreeOK t) (hp : t.pat = none)
    (hF : ss.length + 2 ≤ F) (hG : ss.length + 2 ≤ G) :
    (search G (finalize true F t false) ss).1 = scopeBN t ss :=
  search_walk F G t false ss ss hg ((treeOK_iff t).mp hok) (by simp [hp, takePats]) (by omega) (by omega)

/-- **C04, scope.**  For every application tree that satisfies the side condition of the property and whose applications have
    distinct ids, and every path: the fang list of the node whose `proc` or `catch` answers — hit or 404, whatever the method tree —
    is, outermost first, exactly the chain of the applications whose composed mount prefix contains the path. -/
theorem scope_statement (cfg : App) (t : BN) (ss : List Bytes) (fuel : Nat) (hsc : sideCond cfg = true)
    (hids : (idsOf cfg).Nodup) (hb : build cfg = some t) (hf : ss.length + 2 ≤ fuel) :
    (search fuel (finalize true fuel t false) ss).1.reverse = scopeChain cfg ss := by
  obtain ⟨hok, _, hg, _, hs⟩ := scope_build cfg t hsc hids hb
  rw [search_scope fuel fuel t ss hg hok (build_pat cfg t hb) hf hf, hs ss, List.reverse_reverse]

end Ohkami.Fangs
