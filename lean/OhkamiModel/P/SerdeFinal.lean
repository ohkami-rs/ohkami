import OhkamiModel.P.SerdeRT3
import OhkamiModel.P.SerdePrims
/-! C09, the round trip with nothing assumed about the text functions: the driver's concrete models of
    `str::parse`, `from_utf8` and percent-decoding satisfy `PrimsOK` (`prims_ok`), so `roundtrip_struct` holds for the
    very definitions the correspondence check runs against the real `to_string` / `from_bytes`. -/
namespace Ohkami.Serde
open Ohkami.Serde.Concrete

theorem Concrete.prims_ok : PrimsOK prims where
  pct := Percent.decode_encode
  intU := parse_show_U
  intS := parse_show_S
  intUtf8 := show_utf8
  pctInt := show_noPct
  pctBool := ⟨decode_noPct _ (by decide), decode_noPct _ (by decide)⟩
  chr := utf8Enc_spec

theorem roundtrip_struct_concrete (fields : List (Bytes × Ty × Bool)) (fs : List (Bytes × Value)) (text : Bytes) (fuel : Nat)
    (hw : wellTyped Http.validUtf8 (.struct fields) (.struct fs) = true)
    (hu : unamb true (.struct fs) = true)
    (hnd : (fields.map (·.1)).Nodup) (hne : ∀ n ∈ fields.map (·.1), n ≠ [])
    (he : encode true (.struct fs) = .ok text)
    (hf : szp fs + 2 ≤ fuel) :
    ∃ side, decode prims false fuel (.struct fields) ⟨text, .key⟩ = .ok (.struct fs, ⟨[], side⟩) :=
  roundtrip_struct prims prims_ok fields fs text fuel hw hu hnd hne he hf

end Ohkami.Serde
