import OhkamiModel.P.FangsFinal
/-! C01 with fang scopes: the search of the finalized router of ANY trie (fangs anywhere, compression restricted by scopes) answers with a
    handler only if that handler is registered on a route that matches the path segment by segment. -/
namespace Ohkami.Fangs
open Ohkami

theorem hit_route : ∀ (F G : Nat) (t : BN) (o : Bool) (ss : List Bytes) (f : List Nat) (x : Nat),
    search G (finalize true F t o) ss = (f, some x) →
    ∃ r, (r, x) ∈ routesOfBN t ∧ takePats (t.pat.toList ++ r) ss = some [] := by
  intro F G
  induction G generalizing F with
  | zero => intro t o ss f x h; simpa [search_zero] using congrArg Prod.snd h
  | succ G ih =>
    intro ⟨p, fk, hk, ksk⟩ o ss f x h
    obtain ⟨chain, ⟨pe, fe, he, kse⟩, hc, hfin⟩ := finalize_eq F p fk hk ksk o
    rw [hfin, search_succ] at h
    split at h
    · cases h
    · rename_i rest hp
      simp only [BN.pat]
      cases rest with
      | nil =>
        -- the handler of the end of the chain: the route is the chain
        exact ⟨chain, hc.mem_routes.mpr ⟨[], by simp, (mem_routesOfBN ..).mpr (.inl ⟨rfl, (Prod.mk.inj h).2⟩)⟩, hp⟩
      | cons s1 r1 =>
        -- a child of the end of the chain: the route is the chain, the child's segment, and a route of the child
        simp only [after] at h
        split at h
        · rename_i K hK
          obtain ⟨F, k, rfl, hmem, rfl⟩ := mem_finKids (List.mem_of_find?_eq_some hK)
          obtain ⟨r2, hr2, hm2⟩ := ih F k _ (s1 :: r1) f x h
          refine ⟨chain ++ (k.pat.toList ++ r2), hc.mem_routes.mpr ⟨_, rfl, ?_⟩, ?_⟩
          · exact (mem_routesOfBN ..).mpr (.inr ((mem_routesOfKids ..).mpr ⟨k, hmem, r2, rfl, hr2⟩))
          · rw [← List.append_assoc, takePats_append, hp]
            exact hm2
        · cases h

end Ohkami.Fangs
