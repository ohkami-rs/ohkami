import OhkamiModel.P.Finalize
/-! The child loop of the finalized router, read on the registration trie: on the bytes `/s/ss…` the first child that takes a
    prefix is the static child with pattern `s`, if its whole forced chain goes on along `ss`, else the param child.
    Needs distinct sibling patterns (`KInv`, `Nodup`) and patterns without '/' (`NS`). -/
namespace Ohkami

def finKid : BNode → RNode
  | .mk (.static c) h ks' => finStatic (slash :: c) h ks'
  | .mk .param h ks' => .mk .param h (sortK (finKids ks'))

theorem finKids_eq_map : ∀ ks : List BNode, finKids ks = ks.map finKid := by
  intro ks
  induction ks with
  | nil => rw [finKids]; rfl
  | cons k ks ih =>
    obtain ⟨p, h, ks'⟩ := k
    cases p with
    | static | param => rw [finKids, ih]; rfl

theorem finKid_static (c : Bytes) (h : Option Nat) (ks' : List BNode) :
    finKid (.mk (.static c) h ks') =
      .mk (.static (joinSegs (c :: (chainEnd h ks').1))) (chainEnd h ks').2.1 (sortK (finKids (chainEnd h ks').2.2)) := by
  have := finStatic_eq [c] h ks'
  simp only [joinSegs, List.append_nil, List.singleton_append] at this
  simpa [finKid, joinSegs] using this

theorem firstMatch_append (a b : List RNode) (bytes : Bytes) :
    firstMatch (a ++ b) bytes = (firstMatch a bytes).or (firstMatch b bytes) := by
  fun_induction firstMatch a bytes <;> simp [firstMatch, *]

/-! no-slash invariant of the static patterns -/
mutual
def NS : BNode → Prop
  | .mk p _ ks => (match p with | .static c => NoSlash c | .param => True) ∧ NSK ks
def NSK : List BNode → Prop
  | [] => True
  | k :: ks => NS k ∧ NSK ks
end

theorem NSK_iff {ks : List BNode} : NSK ks ↔ ∀ k ∈ ks, NS k := by
  induction ks with
  | nil => simp [NSK]
  | cons k ks ih => simp only [NSK, ih, List.mem_cons, forall_eq_or_imp]

theorem chainEnd_inv (h : Option Nat) (ks : List BNode) :
    KInv ks → (ks.map BNode.pat).Nodup → NSK ks →
    (∀ c ∈ (chainEnd h ks).1, NoSlash c) ∧ KInv (chainEnd h ks).2.2 ∧ ((chainEnd h ks).2.2.map BNode.pat).Nodup ∧ NSK (chainEnd h ks).2.2 := by
  fun_induction chainEnd h ks with
  | case1 c h' ks' r ih =>
    intro hk hn hns
    simp only [KInv, TInv] at hk
    simp only [NSK, NS] at hns
    obtain ⟨h1, h2, h3, h4⟩ := ih hk.1.1 hk.1.2 hns.1.2
    refine ⟨?_, h2, h3, h4⟩
    intro x hx
    simp only [List.mem_cons] at hx
    rcases hx with rfl | hx
    · exact hns.1.1
    · exact h1 x hx
  | case2 | case3 | case4 | case5 => intro hk hn hns; exact ⟨by simp, hk, hn, hns⟩

/-- the static child that the path `s :: ss` enters, and what it leaves of the path: the child with pattern `s`, if its whole
    forced chain is a prefix of `ss` -/
def staticPick (ks : List BNode) (s : Bytes) (ss : List Bytes) : Option (BNode × List Bytes) :=
  match findStatic ks s with
  | some k =>
    if (chainEnd k.handler k.kids).1.isPrefixOf ss then some (k, ss.drop (chainEnd k.handler k.kids).1.length) else none
  | none => none

theorem staticPick_cons (k : BNode) (ks : List BNode) (s : Bytes) (ss : List Bytes) :
    staticPick (k :: ks) s ss =
      if k.pat = .static s then
        if (chainEnd k.handler k.kids).1.isPrefixOf ss then some (k, ss.drop (chainEnd k.handler k.kids).1.length) else none
      else staticPick ks s ss := by
  by_cases hp : k.pat = .static s <;> simp [staticPick, findStatic, hp]

theorem takeF_finKid_static (c : Bytes) (h : Option Nat) (ks' : List BNode) (s : Bytes) (ss : List Bytes)
    (hc : NoSlash c) (hch : ∀ x ∈ (chainEnd h ks').1, NoSlash x) (hs : NoSlash s) (hss : ∀ x ∈ ss, NoSlash x) :
    takeF (finKid (.mk (.static c) h ks')).pat (joinSegs (s :: ss)) =
      if c = s ∧ (chainEnd h ks').1.isPrefixOf ss then some (joinSegs (ss.drop (chainEnd h ks').1.length), none) else none := by
  rw [finKid_static]
  simp only [RNode.pat, takeF]
  rw [takeStatic_chain (c :: (chainEnd h ks').1) (s :: ss) (List.forall_mem_cons.mpr ⟨hc, hch⟩) (List.forall_mem_cons.mpr ⟨hs, hss⟩)]
  by_cases hcs : c = s
  · by_cases hp : (chainEnd h ks').1.isPrefixOf ss = true <;> simp [List.isPrefixOf, hcs, hp]
  · simp [List.isPrefixOf, hcs]

/-- among the static children, the first that takes a prefix of the path is the only one that can: the one with pattern `s` -/
theorem firstMatch_statics : ∀ (ks : List BNode) (s : Bytes) (ss : List Bytes),
    KInv ks → (ks.map BNode.pat).Nodup → NSK ks → NoSlash s → (∀ x ∈ ss, NoSlash x) →
    firstMatch ((ks.map finKid).filter (fun k => k.pat != .param)) (joinSegs (s :: ss)) =
      (staticPick ks s ss).map fun kr => (finKid kr.1, joinSegs kr.2, none)
  | [], _, _, _, _, _, _, _ => rfl
  | .mk .param h0 ks0 :: rest, s, ss, hk, hn, hns, hs, hss => by
    have ih := firstMatch_statics rest s ss hk.2.2.2 (List.nodup_cons.mp hn).2 hns.2 hs hss
    rw [staticPick_cons, if_neg (by simp [BNode.pat]), ← ih]
    rfl
  | .mk (.static c) h0 ks0 :: rest, s, ss, hk, hn, hns, hs, hss => by
    have ih := firstMatch_statics rest s ss hk.2.2.2 (List.nodup_cons.mp hn).2 hns.2 hs hss
    obtain ⟨hk0, hn0⟩ := TInv_mk.mp hk.1
    have hpat : ((finKid (.mk (.static c) h0 ks0)).pat != RPat.param) = true := by rw [finKid_static]; rfl
    rw [List.map_cons, List.filter_cons, if_pos hpat, firstMatch,
      takeF_finKid_static c h0 ks0 s ss hns.1.1 (chainEnd_inv h0 ks0 hk0 hn0 hns.1.2).1 hs hss, staticPick_cons]
    by_cases hcs : c = s
    · subst hcs
      -- patterns are distinct: no other child has pattern `c`
      have hnone : staticPick rest c ss = none := by
        simp [staticPick, findStatic_none_of_not_mem rest c (by simpa [BNode.pat] using (List.nodup_cons.mp hn).1)]
      by_cases hpre : (chainEnd h0 ks0).1.isPrefixOf ss = true
      · simp [BNode.pat, BNode.handler, BNode.kids, hpre]
      · simp [BNode.pat, BNode.handler, BNode.kids, hpre, ih, hnone]
    · simp [BNode.pat, hcs, ih]

/-- among the param children the first takes the whole segment `s`, if it is not empty; an empty segment is refused by each of them -/
theorem firstMatch_params : ∀ (ks : List BNode) (s : Bytes) (ss : List Bytes), NoSlash s →
    firstMatch ((ks.map finKid).filter (fun k => k.pat == .param)) (joinSegs (s :: ss)) =
      if s ≠ [] then (findParam ks).map fun k => (finKid k, joinSegs ss, some s) else none
  | [], s, ss, _ => by simp [firstMatch, findParam]
  | .mk (.static c) h0 ks0 :: rest, s, ss, hs => by
    have hpat : ((finKid (.mk (.static c) h0 ks0)).pat == RPat.param) = false := by rw [finKid_static]; rfl
    rw [List.map_cons, List.filter_cons, hpat, if_neg (by simp), firstMatch_params rest s ss hs]
    simp [findParam, BNode.pat]
  | .mk .param h0 ks0 :: rest, s, ss, hs => by
    have hpat : (finKid (.mk .param h0 ks0)).pat = .param := rfl
    simp only [List.map_cons, List.filter_cons, hpat, beq_self_eq_true, if_true, firstMatch, takeF, takeParam_join s ss hs]
    by_cases hse : s = []
    · simp [hse, firstMatch_params rest [] ss (hse ▸ hs)]
    · simp [hse, findParam, BNode.pat]

theorem firstMatch_kids (ks : List BNode) (s : Bytes) (ss : List Bytes)
    (hk : KInv ks) (hn : (ks.map BNode.pat).Nodup) (hns : NSK ks) (hs : NoSlash s) (hss : ∀ x ∈ ss, NoSlash x) :
    firstMatch (sortK (finKids ks)) (joinSegs (s :: ss)) =
      ((staticPick ks s ss).map fun kr => (finKid kr.1, joinSegs kr.2, none)).or
        (if s ≠ [] then (findParam ks).map fun k => (finKid k, joinSegs ss, some s) else none) := by
  unfold sortK
  rw [firstMatch_append, finKids_eq_map, firstMatch_statics ks s ss hk hn hns hs hss, firstMatch_params ks s ss hs]

end Ohkami
