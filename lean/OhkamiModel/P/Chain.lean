import OhkamiModel.P.Router
namespace Ohkami

/-! `greedyChain`: greedy with look-ahead over forced static chains (what single-child compression computes). -/

-- the routes all continue with one and the same static segment (node without handler, single static child)
def forcedNext (rs : List (Route × Nat)) : Option Bytes :=
  match rs with
  | [] => none
  | (.static c :: _, _) :: _ =>
    if rs.all (fun rh => match rh.1 with | .static c' :: _ => c' == c | _ => false) then some c else none
  | _ => none

-- follow the forced chain below a static child along the remaining path
def chainMatch : Nat → List (Route × Nat) → List Bytes → Option (List (Route × Nat) × List Bytes)
  | 0, rs, ss => some (rs, ss)
  | fuel + 1, rs, ss =>
    match forcedNext rs with
    | none => some (rs, ss)
    | some c =>
      match ss with
      | s' :: ss' => if s' = c then chainMatch fuel (stepStatic rs c) ss' else none
      | [] => none

def maxLen (rs : List (Route × Nat)) : Nat := (rs.map (·.1.length)).foldl max 0

def greedyChain : Nat → List (Route × Nat) → List Bytes → Option (Nat × List Bytes)
  | 0, _, _ => none
  | _ + 1, rs, [] => (rs.find? (fun rh => rh.1 = [])).map fun rh => (rh.2, [])
  | fuel + 1, rs, s :: ss =>
    let viaStatic : Option (List (Route × Nat) × List Bytes) :=
      if s ≠ [] ∧ stepStatic rs s ≠ [] then chainMatch (ss.length + 1) (stepStatic rs s) ss else none
    match viaStatic with
    | some (rs', ss') => greedyChain fuel rs' ss'
    | none =>
      if s ≠ [] ∧ stepParam rs ≠ [] then
        (greedyChain fuel (stepParam rs) ss).map fun (h, ps) => (h, s :: ps)
      else none

-- the two examples checked on the real router
def ex1 : List (Route × Nat) := [([.static [97], .static [98]], 1), ([.param, .static [99]], 2)]
def ex2 : List (Route × Nat) := ex1 ++ [([.static [97], .static [100]], 3)]
example : greedyChain 5 ex1 [[97], [99]] = some (2, [[97]]) := by decide
example : greedyChain 5 ex2 [[97], [99]] = none := by decide
example : greedy ex1 [[97], [99]] = none := by decide

end Ohkami
