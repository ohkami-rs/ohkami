import OhkamiModel.P.FangsBuild
/-! C04, scope, on the registration trie.  `scopeBN t ss` walks the base trie along the request segments (a child is entered
    when its pattern matches the segment) and answers with the fang list of the node where the walk ends.  For an application
    tree under the side condition (`sideCond`) whose applications carry distinct ids (`ID::new()` is a process-wide counter)
    that is the chain of applications whose composed mount prefix contains the path (`scope_build`); the search of the
    finalized router answers with the same list (`FangsScopeSearch.lean`). -/
namespace Ohkami.Fangs
open Ohkami

def segMatch : Seg → Bytes → Bool
  | .static c, s => decide (s = c)
  | .param, s => decide (s ≠ [])

def kidMatches (k : BN) (s : Bytes) : Bool := (k.pat.map (segMatch · s)).getD false

mutual
def scopeBN : BN → List Bytes → List Nat
  | .mk _ f _ _, [] => f
  | .mk _ f _ ks, s :: rest => scopeKids f ks s rest
def scopeKids (f : List Nat) : List BN → Bytes → List Bytes → List Nat
  | [], _, _ => f
  | k :: ks, s, rest => if kidMatches k s then scopeBN k rest else scopeKids f ks s rest
end

-- every node of the tree carries the same fang list `f`: no scope begins inside it
mutual
def Flat (f : List Nat) : BN → Prop
  | .mk _ f' _ ks => f' = f ∧ FlatKids f ks
def FlatKids (f : List Nat) : List BN → Prop
  | [] => True
  | k :: ks => Flat f k ∧ FlatKids f ks
end

/-- two sibling patterns that one request segment can both match -/
def overlap : Option Seg → Option Seg → Bool
  | some a, some b => compat a b
  | _, _ => true

-- the shape `build` yields under the side condition: fang lists without repetition, a child's list extends its parent's
-- at the inner end, and two children that one segment can both match lie outside every mount (their subtrees carry the parent's list)
mutual
def Good : BN → Prop
  | .mk _ f _ ks => f.Nodup ∧ ks.Pairwise (fun a b => overlap a.pat b.pat = true → Flat f a ∧ Flat f b) ∧ GoodKids f ks
def GoodKids (f : List Nat) : List BN → Prop
  | [] => True
  | k :: ks => (∃ e, k.fangs = e ++ f) ∧ Good k ∧ GoodKids f ks
end

-- the prefix `r` is free in the trie: nothing is registered at or under it, every node on the way carries no fangs, and no sibling
-- on the way can match a segment that the prefix matches
mutual
def Free : Route → BN → Prop
  | [], .mk _ f h ks => f = [] ∧ h = none ∧ ks = []
  | s :: rest, .mk _ f _ ks => f = [] ∧ FreeKids s rest ks
def FreeKids (s : Seg) (rest : Route) : List BN → Prop
  | [] => True
  | k :: ks => (if k.pat = some s then Free rest k else overlap k.pat (some s) = false) ∧ FreeKids s rest ks
end

-- every id in a fang list of the trie satisfies `P` (the ids drawn so far: an application's own id is then in no list below it)
mutual
def AllIds (P : Nat → Prop) : BN → Prop
  | .mk _ f _ ks => (∀ x ∈ f, P x) ∧ AllIdsKids P ks
def AllIdsKids (P : Nat → Prop) : List BN → Prop
  | [] => True
  | k :: ks => AllIds P k ∧ AllIdsKids P ks
end

theorem takePats_cons (s : Seg) (ps : List Seg) (s0 : Bytes) (ss : List Bytes) :
    takePats (s :: ps) (s0 :: ss) = if segMatch s s0 then takePats ps ss else none := by
  cases s <;> simp [takePats, segMatch]

theorem takePats_cons_nil (s : Seg) (ps : List Seg) : takePats (s :: ps) [] = none := by
  cases s <;> simp [takePats]

theorem takePats_append : ∀ (ps qs : List Seg) (ss : List Bytes), takePats (ps ++ qs) ss = (takePats ps ss).bind (takePats qs) := by
  intro ps qs ss
  fun_induction takePats ps ss <;> simp [takePats, *]

theorem takePats_len : ∀ (ps : List Seg) (ss r : List Bytes), takePats ps ss = some r → r.length + ps.length = ss.length
  | [], ss, r, h => by simp [takePats] at h; subst h; simp
  | s :: ps, [], r, h => by simp [takePats_cons_nil] at h
  | s :: ps, s0 :: ss, r, h => by
    rw [takePats_cons] at h
    split at h
    · have := takePats_len ps ss r h
      simp only [List.length_cons]; omega
    · cases h

theorem segUnder_eq_takePats : ∀ (r : Route) (ss : List Bytes), segUnder r ss = takePats r ss := by
  intro r ss
  fun_induction segUnder r ss <;> simp [takePats, *]

theorem segUnder_cons (s : Seg) (ps : Route) (s0 : Bytes) (ss : List Bytes) :
    segUnder (s :: ps) (s0 :: ss) = if segMatch s s0 then segUnder ps ss else none := by
  rw [segUnder_eq_takePats, segUnder_eq_takePats, takePats_cons]

theorem overlap_of_match (a b : Option Seg) (s0 : Bytes) (h1 : (a.map (segMatch · s0)).getD false = true)
    (h2 : (b.map (segMatch · s0)).getD false = true) : overlap a b = true := by
  cases a with
  | none => simp [overlap]
  | some x =>
    cases b with
    | none => simp [overlap]
    | some y => cases x <;> cases y <;> simp_all [overlap, compat, segMatch]

theorem scopeKids_allf (f : List Nat) (s0 : Bytes) (r' : List Bytes) : ∀ (ks : List BN),
    (∀ k ∈ ks, kidMatches k s0 = true → scopeBN k r' = f) → scopeKids f ks s0 r' = f
  | [], _ => by simp [scopeKids]
  | a :: ks, h => by
    simp only [scopeKids]
    split
    · rename_i hm; exact h a (by simp) hm
    · exact scopeKids_allf f s0 r' ks (fun k hk => h k (by simp [hk]))

theorem flatKids_iff_forall (f : List Nat) : ∀ ks : List BN, FlatKids f ks ↔ ∀ k ∈ ks, Flat f k
  | [] => by simp [FlatKids]
  | k :: ks => by simp [FlatKids, flatKids_iff_forall f ks]

theorem goodKids_iff_forall (f : List Nat) : ∀ ks : List BN, GoodKids f ks ↔ ∀ k ∈ ks, (∃ e, k.fangs = e ++ f) ∧ Good k
  | [] => by simp [GoodKids]
  | k :: ks => by simp [GoodKids, goodKids_iff_forall f ks, and_assoc]

theorem goodKids_append (f : List Nat) (a b : List BN) : GoodKids f (a ++ b) ↔ GoodKids f a ∧ GoodKids f b := by
  simp only [goodKids_iff_forall, List.forall_mem_append]

theorem freeKids_iff_forall (s : Seg) (rest : Route) : ∀ ks : List BN, FreeKids s rest ks ↔
    ∀ k ∈ ks, if k.pat = some s then Free rest k else overlap k.pat (some s) = false
  | [] => by simp [FreeKids]
  | k :: ks => by simp [FreeKids, freeKids_iff_forall s rest ks]

theorem allIdsKids_iff_forall (P : Nat → Prop) : ∀ ks : List BN, AllIdsKids P ks ↔ ∀ k ∈ ks, AllIds P k
  | [] => by simp [AllIdsKids]
  | k :: ks => by simp [AllIdsKids, allIdsKids_iff_forall P ks]

theorem allIdsKids_append (P : Nat → Prop) (a b : List BN) : AllIdsKids P (a ++ b) ↔ AllIdsKids P a ∧ AllIdsKids P b := by
  simp only [allIdsKids_iff_forall, List.forall_mem_append]

theorem scopeKids_append (f : List Nat) (s : Bytes) (rest : List Bytes) : ∀ a b : List BN,
    scopeKids f (a ++ b) s rest =
      if a.any (kidMatches · s) then scopeKids f a s rest else scopeKids f b s rest
  | [], b => by simp
  | k :: a, b => by
    simp only [List.cons_append, scopeKids, List.any_cons, scopeKids_append f s rest a b]
    by_cases h : kidMatches k s = true <;> simp [h]

theorem scopeKids_noMatch (f : List Nat) (s : Bytes) (rest : List Bytes) (a : List BN)
    (h : a.any (kidMatches · s) = false) : scopeKids f a s rest = f :=
  scopeKids_allf f s rest a fun k hk hm => absurd hm (List.any_eq_false.mp h k hk)

mutual
theorem scopeBN_flat (f : List Nat) : ∀ (t : BN) (ss : List Bytes), Flat f t → scopeBN t ss = f
  | .mk _ f' _ _, [], h => by simp [scopeBN, h.1]
  | .mk _ f' _ ks, s :: rest, h => by
    simp only [scopeBN]
    obtain ⟨rfl, hk⟩ := h
    exact scopeKids_flat f' ks s rest hk
theorem scopeKids_flat (f : List Nat) : ∀ (ks : List BN) (s : Bytes) (rest : List Bytes), FlatKids f ks → scopeKids f ks s rest = f
  | [], _, _, _ => by simp [scopeKids]
  | k :: ks, s, rest, h => by
    simp only [scopeKids]
    split
    · exact scopeBN_flat f k rest h.1
    · exact scopeKids_flat f ks s rest h.2
end

theorem flat_fangs (f : List Nat) (t : BN) (h : Flat f t) : t.fangs = f := by
  obtain ⟨p, f', hh, ks⟩ := t
  exact h.1

mutual
theorem good_of_flat (f : List Nat) (hf : f.Nodup) : ∀ t : BN, Flat f t → Good t
  | .mk _ f' _ ks, h => by
    obtain ⟨rfl, hk⟩ := h
    have hall := (flatKids_iff_forall f' ks).mp hk
    exact ⟨hf, List.pairwise_of_forall_mem_list fun a ha b hb _ => ⟨hall a ha, hall b hb⟩, goodKids_of_flat f' hf ks hk⟩
theorem goodKids_of_flat (f : List Nat) (hf : f.Nodup) : ∀ ks : List BN, FlatKids f ks → GoodKids f ks
  | [], _ => trivial
  | k :: ks, h => ⟨⟨[], by simp [flat_fangs f k h.1]⟩, good_of_flat f hf k h.1, goodKids_of_flat f hf ks h.2⟩
end

end Ohkami.Fangs
