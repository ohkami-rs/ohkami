import OhkamiModel.P.SerdeRT
/-! C09 round trip, top level: `from_bytes (to_string s) = s` for every struct value of the supported shape. -/
namespace Ohkami.Serde

theorem encode_ne_nil (k : Bytes) (hk : k ≠ []) : Percent.encode k ≠ [] :=
  fun h => hk (by simpa [h, Percent.decode] using (Percent.decode_encode k).symm)

/-- fuel that suffices for the struct loop on these pairs (`structLoop_ok`) -/
def szp : List (Bytes × Value) → Nat
  | [] => 0
  | p :: ps => sz p.2 + 1 + szp ps

theorem encPairs_cons {k : Bytes} {v : Value} {rest : List (Bytes × Value)} {text : Bytes} :
    encPairs true ((k, v) :: rest) = .ok text ↔
      ∃ r, encVal true v = .ok r ∧ ∃ more, encPairs true rest = .ok more ∧
        Percent.encode k ++ EQ :: (r ++ (if rest = [] then [] else AMP :: more)) = text := by
  cases rest <;> simp [encPairs, Except.bind_eq_ok, pure, Except.pure]

theorem wtFields_spec (u : Bytes → Bool) (fields : List (Bytes × Ty × Bool)) : ∀ (fs : List (Bytes × Value)),
    wellTyped.wtFields u fields fs = true → (fields.map (·.1)).Nodup →
    fs.map (·.1) = fields.map (·.1) ∧
    (∀ p ∈ fs, ∃ t, lookupField fields p.1 = some t ∧ wellTyped u t p.2 = true ∧ u p.1 = true) ∧
    ∀ seen, (∀ p ∈ fs, seen.find? (·.1 = p.1) = some p) → fillMissing fields seen = some fs := by
  induction fields with
  | nil =>
    intro fs h _
    cases fs with
    | nil => exact ⟨rfl, nofun, fun _ _ => rfl⟩
    | cons _ _ => simp [wellTyped.wtFields] at h
  | cons f fields ih =>
    intro fs h hnd
    cases fs with
    | nil => simp [wellTyped.wtFields] at h
    | cons p fs =>
      obtain ⟨n, t, d⟩ := f
      obtain ⟨m, v⟩ := p
      simp only [wellTyped.wtFields, Bool.and_eq_true, beq_iff_eq] at h
      obtain ⟨⟨⟨rfl, hu⟩, hw⟩, hrest⟩ := h
      rw [List.map_cons, List.nodup_cons] at hnd
      obtain ⟨hk, hl, hf⟩ := ih fs hrest hnd.2
      refine ⟨by rw [List.map_cons, List.map_cons, hk], ?_, ?_⟩
      · intro p hp
        rcases List.mem_cons.mp hp with rfl | hp
        · exact ⟨t, if_pos rfl, hw, hu⟩
        · have hne : n ≠ p.1 := fun e => hnd.1 (e ▸ hk ▸ List.mem_map_of_mem hp)
          simpa [lookupField, hne] using hl p hp
      · intro seen hs
        simp only [fillMissing, hs (n, v) (by simp), hf seen fun p hp => hs p (by simp [hp])]

theorem find_nodup : ∀ (fs : List (Bytes × Value)), fs.Pairwise (·.1 ≠ ·.1) → ∀ p ∈ fs, fs.find? (·.1 = p.1) = some p
  | q :: fs, hnd, p, hp => by
    rw [List.pairwise_cons] at hnd
    rcases List.mem_cons.mp hp with rfl | hp
    · simp
    · rw [List.find?_cons_of_neg (by simpa using hnd.1 p hp)]
      exact find_nodup fs hnd.2 p hp

variable (P : Prims) (hP : PrimsOK P)
include hP

theorem structLoop_step (uw : Bool) (fields : List (Bytes × Ty × Bool)) (acc : List (Bytes × Value)) (first : Bool)
    (k : Bytes) (v : Value) (t : Ty) (r rest : Bytes) (fuel : Nat) (side : Side)
    (hne : k ≠ []) (hu : P.validUtf8 k = true) (hl : lookupField fields k = some t)
    (hany : acc.any (·.1 = k) = false)
    (hd : decode P uw fuel t ⟨r ++ rest, .value⟩ = .ok (v, ⟨rest, .value⟩)) :
    structLoop P uw (fuel + 1) fields first acc
        ⟨if first then Percent.encode k ++ EQ :: (r ++ rest) else AMP :: (Percent.encode k ++ EQ :: (r ++ rest)), side⟩
      = structLoop P uw fuel fields false (acc ++ [(k, v)]) ⟨rest, .value⟩ := by
  have hns := nextSection_key (Percent.encode k) (r ++ rest) (cleanC_encode k).clean (encode_ne_nil k hne)
  cases first <;> simp [structLoop, hns, hP.pct, hu, hl, hany, hd]

theorem structLoop_ok (fields : List (Bytes × Ty × Bool)) (all fs : List (Bytes × Value))
    (hty : ∀ p ∈ all, ∃ t, lookupField fields p.1 = some t ∧ wellTyped P.validUtf8 t p.2 = true ∧ P.validUtf8 p.1 = true)
    (hne : ∀ p ∈ all, p.1 ≠ []) (hnd : all.Pairwise (·.1 ≠ ·.1))
    (hfill : fillMissing fields all = some fs) :
    ∀ (todo acc : List (Bytes × Value)) (first : Bool) (side : Side) (text : Bytes) (fuel : Nat),
      acc ++ todo = all → unamb.unambF true todo = true → encPairs true todo = .ok text → szp todo + 1 ≤ fuel →
      ∃ side', structLoop P false fuel fields first acc ⟨if first then text else if todo = [] then [] else AMP :: text, side⟩
        = .ok (.struct fs, ⟨[], side'⟩) := by
  -- over the pairs still to be read, `acc` being those read already; at the end `fillMissing` finds every field in `acc = all`
  intro todo
  induction todo with
  | nil =>
    intro acc first side text fuel hs _ he hf
    obtain ⟨f, rfl, _⟩ := fuel_succ hf
    cases he
    rw [List.append_nil] at hs
    exact ⟨side, by simp [structLoop, hs, hfill]⟩
  | cons p rest ih =>
    intro acc first side text fuel hs hun he hf
    obtain ⟨f, rfl, hf'⟩ := fuel_succ hf
    obtain ⟨k, v⟩ := p
    obtain ⟨r, h1, more, h2, rfl⟩ := encPairs_cons.mp he
    simp only [unamb.unambF, Bool.and_eq_true] at hun
    have hf'' : sz v ≤ f ∧ szp rest + 1 ≤ f := by simp only [szp] at hf'; omega
    have hmem : (k, v) ∈ all := hs ▸ List.mem_append_right acc List.mem_cons_self
    obtain ⟨t, hl, hwt, hu⟩ := hty (k, v) hmem
    have hstop : Stop (if rest = [] then [] else AMP :: more) := by
      split
      · exact .inl rfl
      · exact .inr ⟨more, rfl⟩
    rw [← hs, List.pairwise_append] at hnd
    have hany : acc.any (·.1 = k) = false :=
      List.any_eq_false.2 fun q hq h => hnd.2.2 q hq (k, v) List.mem_cons_self (of_decide_eq_true h)
    -- one turn of the loop reads `k=v`: `k` is a field not among `acc` (names are distinct), and `v` reads back and stops at `&` or the end
    rw [if_neg (List.cons_ne_nil _ _), structLoop_step P hP false fields acc first k v t r _ f side (hne _ hmem) hu hl hany
      (dec_val P hP v t r _ f hwt hun.1 h1 hstop hf''.1)]
    exact ih (acc ++ [(k, v)]) false .value more f (by rw [← List.append_cons, hs]) hun.2 h2 hf''.2

/-- **C09, round trip.** For every struct type with distinct, non-empty field names and every value of it that the
    serializer accepts and that is unambiguous in the format, reading the written text gives the value back and
    consumes all of it. -/
theorem roundtrip_struct (fields : List (Bytes × Ty × Bool)) (fs : List (Bytes × Value)) (text : Bytes) (fuel : Nat)
    (hw : wellTyped P.validUtf8 (.struct fields) (.struct fs) = true)
    (hu : unamb true (.struct fs) = true)
    (hnd : (fields.map (·.1)).Nodup) (hne : ∀ n ∈ fields.map (·.1), n ≠ [])
    (he : encode true (.struct fs) = .ok text)
    (hf : szp fs + 2 ≤ fuel) :
    ∃ side, decode P false fuel (.struct fields) ⟨text, .key⟩ = .ok (.struct fs, ⟨[], side⟩) := by
  obtain ⟨f, rfl, hf'⟩ := fuel_succ hf
  obtain ⟨hk, hty, hfill⟩ := wtFields_spec P.validUtf8 fields fs hw hnd
  have hpw : fs.Pairwise (·.1 ≠ ·.1) := List.pairwise_map.1 (hk ▸ hnd)
  -- `decode` at a struct type is the struct loop from the start (`first = true`, nothing read yet, all of `fs` to do); `unamb` and `encode`
  -- of `.struct fs` are `unambF` and `encPairs` of `fs`
  exact structLoop_ok P hP fields fs fs hty (fun p hp => hne p.1 (hk ▸ List.mem_map_of_mem hp)) hpw
    (hfill fs (find_nodup fs hpw)) fs [] true .key text f rfl hu he hf'

end Ohkami.Serde
