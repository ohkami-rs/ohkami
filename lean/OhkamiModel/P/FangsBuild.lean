import OhkamiModel.P.FangsNodup
/-! The route table of a whole application tree: `build` (registration of own routes, mounting of sub-applications,
    fang application) yields a trie whose routes are exactly the flattened configuration.  Invariants that speak of the
    trie alone are carried through `build` by `build_induct`. -/
namespace Ohkami.Fangs
open Ohkami

mutual
def flatRoutes : App → List (Route × Nat)
  | .mk _ _ routes mounts => routes ++ flatMounts mounts
def flatMounts : List (Route × App) → List (Route × Nat)
  | [] => []
  | (r, a) :: rest => under r (flatRoutes a) ++ flatMounts rest
end

theorem foldlM_inv {α β : Type} (f : β → α → Option β) (I : β → Prop) : ∀ (l : List α) (b b' : β),
    (∀ a ∈ l, ∀ b b', I b → f b a = some b' → I b') → I b → l.foldlM f b = some b' → I b'
  | [], b, b', _, hb, h => by simp at h; exact h ▸ hb
  | a :: l, b, b', hstep, hb, h => by
    simp only [List.foldlM_cons, Option.bind_eq_bind, Option.bind_eq_some_iff] at h
    obtain ⟨b1, h1, h2⟩ := h
    exact foldlM_inv f I l b1 b' (fun a ha => hstep a (by simp [ha])) (hstep a (by simp) b b1 hb h1) h2

section
variable {P : App → BN → Prop} {Q : List (Route × App) → BN → BN → Prop}

/-- the recursion of `build` / `buildMounts`, with the equations of the two functions used once -/
theorem build_induct
    (mk : ∀ id hf routes mounts t1 t2, routes.foldlM (fun t rh => register t rh.1 rh.2) (.mk none [] none []) = some t1 →
      buildMounts t1 mounts = some t2 → Q mounts t1 t2 → P (.mk id hf routes mounts) (if hf then applyFangs id t2 else t2))
    (nil : ∀ t, Q [] t t)
    (cons : ∀ r a rest t sub t1 t', build a = some sub → P a sub → mergeAt r t sub = some t1 → buildMounts t1 rest = some t' →
      Q rest t1 t' → Q ((r, a) :: rest) t t') :
    (∀ cfg t, build cfg = some t → P cfg t) ∧ (∀ mounts t t', buildMounts t mounts = some t' → Q mounts t t') :=
  ⟨go, goMounts⟩
where
  go : ∀ (cfg : App) (t : BN), build cfg = some t → P cfg t
    | .mk id hf routes mounts, t, h => by
      simp only [build, Option.bind_eq_bind, Option.bind_eq_some_iff, Option.pure_def, Option.some.injEq] at h
      obtain ⟨t1, h1, t2, h2, rfl⟩ := h
      exact mk id hf routes mounts t1 t2 h1 h2 (goMounts mounts t1 t2 h2)
  goMounts : ∀ (mounts : List (Route × App)) (t t' : BN), buildMounts t mounts = some t' → Q mounts t t'
    | [], t, t', h => by
      simp only [buildMounts, Option.some.injEq] at h
      exact h ▸ nil t
    | (r, a) :: rest, t, t', h => by
      simp only [buildMounts, Option.bind_eq_bind, Option.bind_eq_some_iff] at h
      obtain ⟨sub, hs, t1, h1, h2⟩ := h
      exact cons r a rest t sub t1 t' hs (go a sub hs) h1 h2 (goMounts rest t1 t' h2)
end

theorem perm_foldl_register : ∀ (routes : List (Route × Nat)) (t t' : BN),
    routes.foldlM (fun t rh => register t rh.1 rh.2) t = some t' → (routesOfBN t').Perm (routesOfBN t ++ routes)
  | [], t, t', h => by simp at h; subst h; simp
  | rh :: rest, t, t', h => by
    simp only [List.foldlM_cons, Option.bind_eq_bind, Option.bind_eq_some_iff] at h
    obtain ⟨t1, h1, h2⟩ := h
    refine (perm_foldl_register rest t1 t' h2).trans ?_
    have hp1 := (perm_mergeAt rh.1 t _ t1 h1).2
    simpa [routesOfBN, routesOfKidsBN, under, List.append_assoc] using hp1.append_right rest

theorem perm_build : (∀ cfg t, build cfg = some t → (routesOfBN t).Perm (flatRoutes cfg)) ∧
    (∀ mounts t t', buildMounts t mounts = some t' → (routesOfBN t').Perm (routesOfBN t ++ flatMounts mounts)) :=
  build_induct
    (fun id hf routes mounts t1 t2 h1 _ q => by
      have hp : (routesOfBN t2).Perm (routes ++ flatMounts mounts) :=
        q.trans (List.Perm.append_right _ (by simpa [routesOfBN, routesOfKidsBN] using perm_foldl_register routes _ t1 h1))
      split
      · rw [routes_applyFangs]; exact hp
      · exact hp)
    (fun t => by simp [flatMounts])
    (fun r a rest t sub t1 t' _ p h1 _ q => by
      refine q.trans ?_
      simp only [flatMounts, ← List.append_assoc]
      exact List.Perm.append_right _ ((perm_mergeAt r t sub t1 h1).2.trans (List.Perm.append_left _ (perm_under r p))))

variable {L : List (Option Seg) → Prop} {Ok : Seg → Prop}

theorem every_routes (hL : PatsClosed L Ok) (routes : List (Route × Nat)) (t1 : BN) (hr : ∀ rh ∈ routes, ∀ s ∈ rh.1, Ok s)
    (h1 : routes.foldlM (fun t rh => register t rh.1 rh.2) (.mk none [] none []) = some t1) : Every L t1 :=
  foldlM_inv _ (Every L) routes _ t1
    (fun rh hrh t t' ht h => every_mergeAt hL rh.1 t _ t' (hr rh hrh) ht (every_leaf hL.nil) h) (every_leaf hL.nil) h1

/-- one application of `build`; `q` is what its mounts do to the invariant -/
theorem every_app (hL : PatsClosed L Ok) (id : Nat) (hf : Bool) (routes : List (Route × Nat)) (t1 t2 : BN)
    (hr : ∀ rh ∈ routes, ∀ s ∈ rh.1, Ok s)
    (h1 : routes.foldlM (fun t rh => register t rh.1 rh.2) (.mk none [] none []) = some t1) (q : Every L t1 → Every L t2) :
    Every L (if hf then applyFangs id t2 else t2) := by
  have e1 := every_routes hL routes t1 hr h1
  split
  · exact every_applyFangs id t2 (q e1)
  · exact q e1

theorem every_build (hL : PatsClosed L fun _ => True) :
    (∀ cfg t, build cfg = some t → Every L t) ∧ (∀ mounts t t', buildMounts t mounts = some t' → Every L t → Every L t') :=
  build_induct (P := fun _ t => Every L t) (Q := fun _ t t' => Every L t → Every L t')
    (fun id hf routes _ t1 t2 h1 _ q => every_app hL id hf routes t1 t2 (fun _ _ _ _ => trivial) h1 q)
    (fun _ h => h)
    (fun r _ _ t sub t1 _ _ p h1 _ q ht => q (every_mergeAt hL r t sub t1 (fun _ _ => trivial) ht p h1))

theorem routes_build : ∀ (cfg : App) (t : BN), build cfg = some t →
    (routesOfBN t).Perm (flatRoutes cfg) ∧ TreeOK t :=
  fun cfg t h => ⟨perm_build.1 cfg t h, (treeOK_iff t).mpr ((every_build okL_closed).1 cfg t h)⟩

theorem routes_buildMounts : ∀ (mounts : List (Route × App)) (t t' : BN), TreeOK t → buildMounts t mounts = some t' →
    (routesOfBN t').Perm (routesOfBN t ++ flatMounts mounts) ∧ TreeOK t' :=
  fun mounts t t' ht h => ⟨perm_build.2 mounts t t' h, (treeOK_iff t').mpr ((every_build okL_closed).2 mounts t t' h ((treeOK_iff t).mp ht))⟩

/-- sibling patterns are pairwise distinct everywhere in the trie `build` yields, so no registered route sits behind a twin
    child that the search never enters.  Before fix 8878fb7 this failed for a parent that registers a route under the prefix
    of a mount. -/
theorem nd_build : ∀ (cfg : App) (t : BN), build cfg = some t → ND t :=
  fun cfg t h => (nd_iff t).mpr ((every_build nodup_closed).1 cfg t h)

theorem nd_buildMounts : ∀ (mounts : List (Route × App)) (t t' : BN), TreeOK t → ND t → buildMounts t mounts = some t' → ND t' :=
  fun mounts t t' _ hn h => (nd_iff t').mpr ((every_build nodup_closed).2 mounts t t' h ((nd_iff t).mp hn))

theorem build_pat (cfg : App) (t : BN) (h : build cfg = some t) : t.pat = none :=
  (build_induct (P := fun _ t => t.pat = none) (Q := fun _ t t' => t'.pat = t.pat)
    (fun id hf routes mounts t1 t2 h1 _ q => by
      have e1 := foldlM_inv _ (fun t : BN => t.pat = none) routes _ t1
        (fun rh _ t t' ht h => (mergeAt_pat rh.1 t _ t' h).trans ht) rfl h1
      split
      · rw [applyFangs_pat, q, e1]
      · rw [q, e1])
    (fun _ => rfl)
    (fun r a rest t sub t1 t' _ _ h1 _ q => q.trans (mergeAt_pat r t sub t1 h1))).1 cfg t h

end Ohkami.Fangs
