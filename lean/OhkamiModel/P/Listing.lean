/-! A list of key–value pairs that lists a finite map, and sums over it.  The lines written for the standard headers list what the
    store reads (`lists_live`), and every store operation changes that reading at one key, so every statement about the bytes written
    for the table after an operation is `Lists.sum_pointUpdate`. -/
namespace Ohkami

variable {α κ β : Type}

/-- `l` lists the finite map `g`: its entries are the pairs `g` relates, and no key comes twice -/
def Lists (l : List (κ × β)) (g : κ → Option β) : Prop :=
  (∀ k v, (k, v) ∈ l ↔ g k = some v) ∧ (l.map (·.1)).Nodup

/-- what the entry of `k` adds to a sum over the list -/
def cost (f : κ × β → Nat) (k : κ) : Option β → Nat
  | none => 0
  | some v => f (k, v)

theorem sum_map_filter_add (f : α → Nat) (p : α → Bool) (l : List α) :
    ((l.filter p).map f).sum + ((l.filter (!p ·)).map f).sum = (l.map f).sum := by
  rw [← List.sum_append_nat, ← List.map_append, ((List.filter_append_perm p l).map f).sum_nat]

theorem Lists.nodup {l : List (κ × β)} {g} (h : Lists l g) : l.Nodup :=
  List.Pairwise.of_map (·.1) (fun _ _ hne he => hne (congrArg (·.1) he)) h.2

theorem Lists.sum_filter_key [DecidableEq κ] (f : κ × β → Nat) {l : List (κ × β)} {g} (h : Lists l g) (k : κ) :
    ((l.filter (·.1 = k)).map f).sum = cost f k (g k) := by
  -- the entries under `k` and the value of `g` at `k` are two lists without duplicates that have the same members
  have hp : (l.filter (·.1 = k)).Perm ((g k).map (k, ·)).toList := by
    refine (List.perm_ext_iff_of_nodup (h.nodup.filter _) ?_).mpr fun ⟨k', v⟩ => ?_
    · cases g k <;> simp
    · simp only [List.mem_filter, h.1, decide_eq_true_eq]
      cases hg : g k with
      | none => simp only [Option.map_none, Option.toList_none, List.not_mem_nil, iff_false]; rintro ⟨hv, rfl⟩; simp [hg] at hv
      | some w =>
        simp only [Option.map_some, Option.toList_some, List.mem_singleton, Prod.mk.injEq]
        exact ⟨fun ⟨hv, hk⟩ => ⟨hk, by subst hk; simpa [hg, eq_comm] using hv⟩, fun ⟨hk, hv⟩ => ⟨by rw [hk, hv, hg], hk⟩⟩
  rw [(hp.map f).sum_nat]
  cases g k <;> simp [cost]

theorem Lists.cost_le [DecidableEq κ] (f : κ × β → Nat) {l : List (κ × β)} {g} (h : Lists l g) (k : κ) :
    cost f k (g k) ≤ (l.map f).sum := by
  rw [← sum_map_filter_add f (·.1 = k) l, h.sum_filter_key]
  omega

theorem Lists.sum_pointUpdate [DecidableEq κ] (f : κ × β → Nat) {l l' : List (κ × β)} {g g'} (h : Lists l g) (h' : Lists l' g') (k : κ)
    (hg : ∀ k', k' ≠ k → g' k' = g k') :
    (l'.map f).sum + cost f k (g k) = (l.map f).sum + cost f k (g' k) := by
  -- off `k` the two lists have the same members, none twice: a permutation
  have hp : (l'.filter fun x => !decide (x.1 = k)).Perm (l.filter fun x => !decide (x.1 = k)) := by
    refine (List.perm_ext_iff_of_nodup (h'.nodup.filter _) (h.nodup.filter _)).mpr fun ⟨k', v⟩ => ?_
    simp only [List.mem_filter, h.1, h'.1, Bool.not_eq_true', decide_eq_false_iff_not]
    exact and_congr_left fun hk => by rw [hg k' hk]
  rw [← sum_map_filter_add f (·.1 = k) l, ← sum_map_filter_add f (·.1 = k) l', h.sum_filter_key, h'.sum_filter_key,
    (hp.map f).sum_nat]
  omega

end Ohkami
