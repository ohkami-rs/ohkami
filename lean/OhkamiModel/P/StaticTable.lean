import OhkamiModel.P.ChainPerm
/-! Static route tables (what `Dir` registers): the specification is the table look-up at the path read as a static route. -/
namespace Ohkami

def AllStatic (r : Route) : Prop := ∀ s ∈ r, ∃ b, s = Seg.static b

def staticBytes : Route → List Bytes
  | [] => []
  | .static b :: r => b :: staticBytes r
  | .param :: r => staticBytes r

theorem staticBytes_map (l : List Bytes) : staticBytes (l.map Seg.static) = l := by
  induction l with
  | nil => rfl
  | cons b l ih => simp [staticBytes, ih]

theorem allStatic_map (l : List Bytes) : AllStatic (l.map Seg.static) := by
  intro s hs
  obtain ⟨b, _, rfl⟩ := List.mem_map.mp hs
  exact ⟨b, rfl⟩

/-- a chain match keeps the table look-up of the path read as a static route where it goes through, and fails only where that look-up
    finds nothing -/
theorem chainMatch_handlerAt (fuel : Nat) (rs : List (Route × Nat)) (ss : List Bytes) :
    match chainMatch fuel rs ss with
    | some (rs', ss') => handlerAt rs' (ss'.map .static) = handlerAt rs (ss.map .static) ∧ ss'.length ≤ ss.length
    | none => handlerAt rs (ss.map .static) = none := by
  fun_induction chainMatch fuel rs ss with
  | case1 | case2 => exact ⟨rfl, Nat.le_refl _⟩
  | case3 f rs c ss' hf ih =>
    -- a step of the chain is a step of the table, hence (`handlerAt_step`) of the route looked up
    rw [stepStatic_eq, handlerAt_step] at ih
    split at ih
    · next he => rw [stepStatic_eq, he]; exact ⟨ih.1, Nat.le_succ_of_le ih.2⟩
    · next he => rw [stepStatic_eq, he]; exact ih
  | case4 f rs c hf s' ss' hne =>
    -- every route goes on with `c`, the path with another segment
    refine handlerAt_eq_none fun a ha => ?_
    obtain ⟨t, ht⟩ := forcedNext_spec hf _ ha
    exact hne (Seg.static.inj (List.cons.inj ht).1)
  | case5 f rs c hf =>
    -- every route goes on with `c`, the path has ended
    refine handlerAt_eq_none fun a ha => ?_
    obtain ⟨t, ht⟩ := forcedNext_spec hf _ ha
    cases ht

/-- a table of static routes without empty segments (what `Dir` registers) -/
def Plain (rs : List (Route × Nat)) : Prop := ∀ rh ∈ rs, ∀ x ∈ rh.1, ∃ b, x = Seg.static b ∧ b ≠ []

theorem plain_of {rs : List (Route × Nat)} (hall : ∀ rh ∈ rs, AllStatic rh.1) (hwf : WFRoutes rs) : Plain rs := by
  intro rh hm x hx
  obtain ⟨b, rfl⟩ := hall rh hm x hx
  exact ⟨b, rfl, fun e => hwf rh hm (e ▸ hx)⟩

theorem Plain.stepStatic {rs : List (Route × Nat)} (h : Plain rs) (c : Bytes) : Plain (stepStatic rs c) := by
  intro ⟨t, a⟩ hm x hx
  exact h _ (mem_stepStatic.mp hm) x (List.mem_cons_of_mem _ hx)

theorem Plain.stepParam {rs : List (Route × Nat)} (h : Plain rs) : stepParam rs = [] := by
  apply List.eq_nil_iff_forall_not_mem.mpr
  intro ⟨t, a⟩ hm
  obtain ⟨b, hb, _⟩ := h _ (mem_stepParam.mp hm) .param (by simp)
  cases hb

theorem static_table : ∀ (fuel : Nat) (rs : List (Route × Nat)) (segs : List Bytes), Plain rs → segs.length < fuel →
    greedyChain fuel rs segs = (handlerAt rs (segs.map .static)).map (·, []) := by
  intro fuel
  induction fuel with
  | zero => intro rs segs _ hf; omega
  | succ f ih =>
    intro rs segs hp hf
    match segs with
    | [] => simp only [greedyChain, handlerAt, List.map_nil, Option.map_map, Function.comp_def]
    | s :: ss =>
      have hf' : ss.length < f := by simp at hf; omega
      -- the look-up steps with the path: on a plain table there is no param step, and `handlerAt` at `s :: ss` is `handlerAt` of the static step at `ss`
      rw [greedyChain_cons, hp.stepParam, List.map_cons, ← handlerAt_step, ← stepStatic_eq]
      by_cases hc : s ≠ [] ∧ stepStatic rs s ≠ []
      · -- the chain below the step keeps `handlerAt` where it goes through, and fails only where `handlerAt` finds nothing
        rw [if_pos hc]
        have := chainMatch_handlerAt (ss.length + 1) (stepStatic rs s) ss
        split at this
        · next rs' ss' he =>
          rw [he, ← this.1]
          exact ih rs' ss' (chainMatch_preserves (I := Plain) (fun _ c h => h.stepStatic c) _ _ _ _ _ he (hp.stepStatic s)) (by omega)
        · next he =>
          rw [he, this]
          simp
      · -- no route goes on with `s` (a plain table has no empty segment)
        rw [if_neg hc]
        have : handlerAt (stepStatic rs s) (ss.map .static) = none := by
          apply handlerAt_eq_none
          intro a ha
          have hne : s ≠ [] := by
            obtain ⟨b, hb, hb'⟩ := hp _ (mem_stepStatic.mp ha) (.static s) (by simp)
            cases hb; exact hb'
          exact hc ⟨hne, List.ne_nil_of_mem ha⟩
        simp [this]

end Ohkami
