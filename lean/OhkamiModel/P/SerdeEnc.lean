import OhkamiModel.P.Serde
/-! Prototype: URL-encoded serializer (`serde_urlencoded/ser.rs`) over the same `Value`s, and the decidable
    side conditions of the round trip (C09). -/
namespace Ohkami.Serde

-- `itoa`-style decimal text of an integer (what `to_string` of every integer type prints)
def natDigits : Nat → Nat → Bytes → Bytes
  | 0, _, acc => acc
  | fuel + 1, n, acc => if n < 10 then (48 + n).toUInt8 :: acc else natDigits fuel (n / 10) ((48 + n % 10).toUInt8 :: acc)
def showInt (z : Int) : Bytes :=
  match z with
  | .ofNat n => natDigits (n + 1) n []
  | .negSucc n => 45 :: natDigits (n + 2) (n + 1) []

-- UTF-8 of one scalar value
def utf8Enc (c : Nat) : Bytes :=
  if c < 0x80 then [c.toUInt8]
  else if c < 0x800 then [(0xC0 + c / 64).toUInt8, (0x80 + c % 64).toUInt8]
  else if c < 0x10000 then [(0xE0 + c / 4096).toUInt8, (0x80 + c / 64 % 64).toUInt8, (0x80 + c % 64).toUInt8]
  else [(0xF0 + c / 262144).toUInt8, (0x80 + c / 4096 % 64).toUInt8, (0x80 + c / 64 % 64).toUInt8, (0x80 + c % 64).toUInt8]

-- how sequence elements are joined. `firstFlag = true` is the repaired writer (F9d: a first-element flag),
-- `false` the one before it (`if !output.ends_with('=') { push(',') }`): renderings that are empty while the text after `=` is
-- still empty leave no trace at all
def joinSeq (firstFlag : Bool) : List Bytes → Bytes
  | [] => []
  | r :: rs =>
    if !firstFlag && r.isEmpty then joinSeq firstFlag rs
    else r ++ rs.flatMap (COMMA :: ·)

inductive SerErr where | bytes | nested deriving Repr, DecidableEq

-- a value in value position (after `key=`); maps and structs are refused there (`init` is already false)
def encVal (firstFlag : Bool) : Value → Except SerErr Bytes
  | .bool b => .ok (if b then TRUE else FALSE)
  | .int z => .ok (showInt z)
  | .floatText t => .ok t
  | .char c => .ok (Percent.encode (utf8Enc c))
  | .str s => .ok (Percent.encode s)
  | .bytes _ => .error .bytes
  | .none => .ok []
  | .unit => .ok []
  | .defaulted => .ok []
  | .some v => encVal firstFlag v
  | .newtype v => encVal firstFlag v
  | .variant n => .ok (Percent.encode n)
  | .seq vs => do
    let rs ← encVals firstFlag vs
    pure (joinSeq firstFlag rs)
  | .map _ => .error .nested
  | .struct _ => .error .nested
where encVals (firstFlag : Bool) : List Value → Except SerErr (List Bytes)
  | [] => .ok []
  | v :: vs => do
    let r ← encVal firstFlag v
    let rs ← encVals firstFlag vs
    pure (r :: rs)

def encPairs (firstFlag : Bool) : List (Bytes × Value) → Except SerErr Bytes
  | [] => .ok []
  | [(k, v)] => do
    let r ← encVal firstFlag v
    pure (Percent.encode k ++ EQ :: r)
  | (k, v) :: rest => do
    let r ← encVal firstFlag v
    let more ← encPairs firstFlag rest
    pure (Percent.encode k ++ EQ :: r ++ AMP :: more)

-- `to_string` of a top-level struct or string-keyed map
def encode (firstFlag : Bool) : Value → Except SerErr Bytes
  | .struct fs => encPairs firstFlag fs
  | .map kvs => encPairs firstFlag (kvs.filterMap fun kv => match kv.1 with | .str k => some (k, kv.2) | _ => none)
  | _ => .error .nested

/-- what the *format* cannot tell apart, stated on renderings: `Some v` rendered empty reads back as `None`;
    a one-element sequence rendered empty reads back as `[]`. -/
def unamb (firstFlag : Bool) : Value → Bool
  | .some v => (match encVal firstFlag v with | .ok r => !r.isEmpty | _ => false) && unamb firstFlag v
  | .newtype v => unamb firstFlag v
  | .seq vs =>
    (match vs with
     | [v] => (match encVal firstFlag v with | .ok r => !r.isEmpty | _ => false)
     | _ => true) && unambs firstFlag vs
  | .struct fs => unambF firstFlag fs
  | .map kvs => unambM firstFlag kvs
  | _ => true
where
  unambs (firstFlag : Bool) : List Value → Bool
    | [] => true
    | v :: vs => unamb firstFlag v && unambs firstFlag vs
  unambF (firstFlag : Bool) : List (Bytes × Value) → Bool
    | [] => true
    | (_, v) :: fs => unamb firstFlag v && unambF firstFlag fs
  unambM (firstFlag : Bool) : List (Value × Value) → Bool
    | [] => true
    | (k, v) :: kvs => (match k with | .str s => !s.isEmpty | _ => false) && unamb firstFlag v && unambM firstFlag kvs


-- element types of a sequence: everything whose rendering has no `,` of its own
def noSeq : Ty → Bool
  | .seq _ | .map _ _ | .struct _ | .bytes | .byteBuf | .ignored | .float _ => false
  | .option t | .newtype t => noSeq t
  | _ => true

/-- `v` is a value of the Rust type described by `ty` (what the generator draws and the theorem quantifies over).
    `utf8` is the validity test of `String`. A `&'de str` field can only borrow from the input, so it holds exactly the
    strings whose encoding is the identity; variant names are any UTF-8 text (read back percent-decoded since fix ca4cc42). -/
def wellTyped (utf8 : Bytes → Bool) : Ty → Value → Bool
  | .bool, .bool _ => true
  | .uint bits, .int z => 0 ≤ z && z < 2 ^ bits
  | .sint bits, .int z => -(2 ^ (bits - 1) : Int) ≤ z && z < 2 ^ (bits - 1)
  | .char, .char c => c < 0xD800 || (0xE000 ≤ c && c < 0x110000)
  | .string, .str s => utf8 s
  | .str, .str s => utf8 s && Percent.encode s == s
  | .option _, .none => true
  | .option t, .some v => wellTyped utf8 t v
  | .unit, .unit => true
  | .newtype t, .newtype v => wellTyped utf8 t v
  | .seq t, .seq vs => noSeq t && wtAll utf8 t vs
  | .map .string vt, .map kvs => wtMap utf8 vt kvs
  | .struct fields, .struct fs => wtFields utf8 fields fs
  | .unitEnum names, .variant n => names.contains n && utf8 n
  | _, _ => false
where
  wtAll (utf8 : Bytes → Bool) (t : Ty) : List Value → Bool
    | [] => true
    | v :: vs => wellTyped utf8 t v && wtAll utf8 t vs
  wtMap (utf8 : Bytes → Bool) (vt : Ty) : List (Value × Value) → Bool
    | [] => true
    | (k, v) :: kvs => (match k with | .str s => utf8 s | _ => false) && wellTyped utf8 vt v && wtMap utf8 vt kvs
  wtFields (utf8 : Bytes → Bool) : List (Bytes × Ty × Bool) → List (Bytes × Value) → Bool
    | [], [] => true
    | (n, t, _) :: fields, (m, v) :: fs => n == m && utf8 n && wellTyped utf8 t v && wtFields utf8 fields fs
    | _, _ => false

end Ohkami.Serde
