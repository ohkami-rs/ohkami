import OhkamiModel.P.Trie
import OhkamiModel.P.ChainProofs
/-! The registration trie refines the specification: `lookupC` on a trie with invariant `TInv` is `greedyChain` on its
    route table.  One step of the table is the routes of the child with that pattern; the chain is forced below a node
    exactly when the node is merged with its single static child, so `chainMatch` and `followChain` walk in step. -/
namespace Ohkami

theorem findStatic_eq (ks : List BNode) (s : Bytes) : findStatic ks s = ks.find? (fun k => k.pat = .static s) := by
  fun_induction findStatic ks s <;> simp [*]

theorem findParam_eq (ks : List BNode) : findParam ks = ks.find? (fun k => k.pat = .param) := by
  fun_induction findParam ks <;> simp [*]

/-- a function of its own: the same `match` written in two statements is two different terms -/
def routesOfOpt : Option BNode → List (Route × Nat)
  | some k => routesOf k
  | none => []

theorem step_kids (x : Seg) : ∀ (ks : List BNode), (ks.map BNode.pat).Nodup →
    step x (routesOfKids ks) = routesOfOpt (ks.find? fun k => k.pat = x) := by
  intro ks
  induction ks with
  | nil => intro _; rfl
  | cons k ks ih =>
    intro hn
    simp only [List.map_cons, List.nodup_cons] at hn
    simp only [routesOfKids, step_append, step_map_cons, List.find?_cons, ih hn.2]
    by_cases hp : k.pat = x
    · have : ks.find? (fun k => k.pat = x) = none := by
        rw [List.find?_eq_none]
        intro k' hk' he
        exact hn.1 (List.mem_map.mpr ⟨k', hk', by simpa [hp] using he⟩)
      simp [hp, this, routesOfOpt]
    · simp [hp]

theorem routesOf_mk (p : Seg) (h : Option Nat) (ks : List BNode) :
    routesOf (.mk p h ks) = (match h with | some x => [([], x)] | none => []) ++ routesOfKids ks := by
  cases h <;> simp [routesOf]

theorem step_node (x p : Seg) (h : Option Nat) (ks : List BNode) (hn : (ks.map BNode.pat).Nodup) :
    step x (routesOf (.mk p h ks)) = routesOfOpt (ks.find? fun k => k.pat = x) := by
  rw [routesOf_mk, step_append, step_kids x ks hn]
  cases h <;> simp [step]

theorem stepStatic_node (p : Seg) (h : Option Nat) (ks : List BNode) (s : Bytes) (hn : (ks.map BNode.pat).Nodup) :
    stepStatic (routesOf (.mk p h ks)) s = routesOfOpt (findStatic ks s) := by
  rw [stepStatic_eq, findStatic_eq, step_node _ _ _ _ hn]

theorem stepParam_node (p : Seg) (h : Option Nat) (ks : List BNode) (hn : (ks.map BNode.pat).Nodup) :
    stepParam (routesOf (.mk p h ks)) = routesOfOpt (findParam ks) := by
  rw [stepParam_eq, findParam_eq, step_node _ _ _ _ hn]

theorem findStatic_mem {ks : List BNode} {s : Bytes} {k : BNode} (h : findStatic ks s = some k) : k ∈ ks ∧ k.pat = .static s := by
  rw [findStatic_eq] at h
  exact ⟨List.mem_of_find?_eq_some h, by simpa using List.find?_some h⟩

theorem findParam_mem {ks : List BNode} {k : BNode} (h : findParam ks = some k) : k ∈ ks ∧ k.pat = .param := by
  rw [findParam_eq] at h
  exact ⟨List.mem_of_find?_eq_some h, by simpa using List.find?_some h⟩

theorem KInv_iff {ks : List BNode} : KInv ks ↔ ∀ k ∈ ks, TInv k ∧ routesOf k ≠ [] ∧ k.pat ≠ .static [] := by
  induction ks with
  | nil => simp [KInv]
  | cons k ks ih => simp only [KInv, ih, List.mem_cons, forall_eq_or_imp, and_assoc]

theorem TInv_mk {p h ks} : TInv (.mk p h ks) ↔ KInv ks ∧ (ks.map BNode.pat).Nodup := by
  simp [TInv]

theorem findStatic_none_of_not_mem (ks : List BNode) (s : Bytes) (h : Seg.static s ∉ ks.map BNode.pat) : findStatic ks s = none := by
  rw [findStatic_eq, List.find?_eq_none]
  intro k hk he
  exact h (List.mem_map.mpr ⟨k, hk, of_decide_eq_true he⟩)

theorem findStatic_nil_none (ks : List BNode) (h : KInv ks) : findStatic ks [] = none :=
  findStatic_none_of_not_mem ks [] fun hm => by
    obtain ⟨k, hk, hp⟩ := List.mem_map.mp hm
    exact (KInv_iff.mp h k hk).2.2 hp

theorem lookupC_nil (f : Nat) (n : BNode) : lookupC (f + 1) n [] = n.handler.map fun h => (h, []) := by
  simp [lookupC]

theorem lookupC_body (fuel : Nat) (n n' : BNode) (segs : List Bytes) (hh : n.handler = n'.handler) (hk : n.kids = n'.kids) :
    lookupC fuel n segs = lookupC fuel n' segs := by
  cases fuel with
  | zero => simp [lookupC]
  | succ f =>
    cases segs with
    | nil => simp [lookupC, hh]
    | cons s ss => simp only [lookupC, hk]

/-- the chain stops at a node body `(h, ks)`: it has a handler, or not exactly one child, or a param child -/
def Stop (h : Option Nat) (ks : List BNode) : Prop := ∀ c h' ks', ¬ (h = none ∧ ks = [.mk (.static c) h' ks'])

theorem body_cases (h : Option Nat) (ks : List BNode) :
    (∃ c h' ks', h = none ∧ ks = [.mk (.static c) h' ks']) ∨ Stop h ks := by
  match h, ks with
  | none, [.mk (.static c) h' ks'] => exact .inl ⟨c, h', ks', rfl, rfl⟩
  | none, [] | none, [.mk .param _ _] | none, _ :: _ :: _ => exact .inr (fun _ _ _ e => by cases e.2)
  | some _, _ => exact .inr (fun _ _ _ e => by cases e.1)

theorem followChain_link (f : Nat) (p : Seg) (c : Bytes) (h' : Option Nat) (ks' : List BNode) (ss : List Bytes) :
    followChain (f + 1) (.mk p none [.mk (.static c) h' ks']) ss =
      match ss with
      | s' :: ss' => if s' = c then followChain f (.mk (.static c) h' ks') ss' else none
      | [] => none := rfl

theorem followChain_stop (f : Nat) (p : Seg) {h : Option Nat} {ks : List BNode} (hs : Stop h ks) (ss : List Bytes) :
    followChain (f + 1) (.mk p h ks) ss = some (.mk p h ks, ss) := by
  match h, ks, hs with
  | none, [.mk (.static c) h' ks'], hs => exact absurd ⟨rfl, rfl⟩ (hs c h' ks')
  | none, [], _ | none, [.mk .param _ _], _ | none, .mk (.static _) _ _ :: _ :: _, _
  | none, .mk .param _ _ :: _ :: _, _ | some _, _, _ => rfl

theorem mem_routesOfKids {ks : List BNode} {rh : Route × Nat} :
    rh ∈ routesOfKids ks ↔ ∃ k ∈ ks, ∃ rh' ∈ routesOf k, rh = (k.pat :: rh'.1, rh'.2) := by
  induction ks with
  | nil => simp [routesOfKids]
  | cons k ks ih =>
    simp only [routesOfKids, List.mem_append, List.mem_map, ih, List.mem_cons, exists_eq_or_imp, eq_comm (a := rh)]

theorem forcedNext_link {p : Seg} {c : Bytes} {h' : Option Nat} {ks' : List BNode}
    (hne : routesOf (.mk (.static c) h' ks') ≠ []) :
    forcedNext (routesOf (.mk p none [.mk (.static c) h' ks'])) = some c := by
  rw [forcedNext_iff, routesOf_mk, List.nil_append]
  constructor
  · simpa [routesOfKids] using hne
  · intro rh hm
    obtain ⟨k, hk, rh', _, rfl⟩ := mem_routesOfKids.mp hm
    rw [List.mem_singleton.mp hk]
    exact ⟨rh'.1, rfl⟩

theorem forcedNext_stop {p : Seg} {h : Option Nat} {ks : List BNode} (hi : TInv (.mk p h ks)) (hs : Stop h ks) :
    forcedNext (routesOf (.mk p h ks)) = none := by
  obtain ⟨hk, hn⟩ := TInv_mk.mp hi
  apply Option.eq_none_iff_forall_ne_some.mpr
  intro c hc
  obtain ⟨hne, hall⟩ := forcedNext_iff.mp hc
  rw [routesOf_mk] at hne hall
  -- no handler: its route `[]` does not start with `static c`
  match h, hs with
  | some x, _ =>
    obtain ⟨t, ht⟩ := hall ([], x) (by simp)
    cases ht
  | none, hs =>
    simp only [List.nil_append] at hne hall
    -- every child has a route, which starts with the child's pattern: all patterns are `static c`
    have hpat : ∀ k ∈ ks, k.pat = .static c := by
      intro k hkm
      obtain ⟨rh, hrh⟩ := List.exists_mem_of_ne_nil _ (KInv_iff.mp hk k hkm).2.1
      obtain ⟨t, ht⟩ := hall _ (mem_routesOfKids.mpr ⟨k, hkm, rh, hrh, rfl⟩)
      exact (List.cons.inj ht).1
    -- so, patterns being distinct, there is exactly one child
    match ks, hn, hpat, hne, hs with
    | [], _, _, hne, _ => exact hne rfl
    | [.mk q h' ks'], _, hpat, _, hs =>
      have : q = .static c := hpat (.mk q h' ks') (by simp)
      exact hs c h' ks' ⟨rfl, by rw [this]⟩
    | k1 :: k2 :: rest, hn, hpat, _, _ =>
      simp only [List.map_cons, List.nodup_cons, List.mem_cons] at hn
      exact hn.1 (.inl (by rw [hpat k1 (by simp), hpat k2 (by simp)]))

theorem chainMatch_followChain : ∀ (fuel : Nat) (k : BNode) (ss : List Bytes), TInv k → routesOf k ≠ [] →
    (chainMatch fuel (routesOf k) ss = none ∧ followChain fuel k ss = none) ∨
    ∃ k' ss', chainMatch fuel (routesOf k) ss = some (routesOf k', ss') ∧ followChain fuel k ss = some (k', ss')
      ∧ TInv k' ∧ routesOf k' ≠ [] := by
  intro fuel
  induction fuel with
  | zero => intro k ss hi hne; exact .inr ⟨k, ss, rfl, rfl, hi, hne⟩
  | succ f ih =>
    intro ⟨p, h, ks⟩ ss hi hne
    rcases body_cases h ks with ⟨c, h', ks', rfl, rfl⟩ | hs
    · obtain ⟨hk, hn⟩ := TInv_mk.mp hi
      obtain ⟨hi1, hne1, _⟩ := KInv_iff.mp hk (.mk (.static c) h' ks') (by simp)
      have hstep : stepStatic (routesOf (.mk p none [.mk (.static c) h' ks'])) c = routesOf (.mk (.static c) h' ks') := by
        rw [stepStatic_node _ _ _ _ hn]
        simp [findStatic, BNode.pat, routesOfOpt]
      rw [followChain_link]
      simp only [chainMatch, forcedNext_link hne1]
      match ss with
      | [] => exact .inl ⟨rfl, rfl⟩
      | s' :: ss' =>
        by_cases hc : s' = c
        · simp only [hc, if_true, hstep]
          exact ih _ _ hi1 hne1
        · left
          simp [hc]
    · right
      refine ⟨_, ss, ?_, followChain_stop f p hs ss, hi, hne⟩
      simp only [chainMatch, forcedNext_stop hi hs]

theorem find_nil_routesOf (p : Seg) (h : Option Nat) (ks : List BNode) :
    ((routesOf (.mk p h ks)).find? (fun rh => rh.1 = [])).map (fun rh => (rh.2, ([] : List Bytes))) = h.map (fun x => (x, [])) := by
  rw [routesOf_mk]
  cases h with
  | some x => simp
  | none =>
    simp only [List.nil_append, Option.map_none, Option.map_eq_none_iff, List.find?_eq_none]
    intro rh hm
    obtain ⟨k, _, rh', _, rfl⟩ := mem_routesOfKids.mp hm
    simp

theorem lookupC_eq_greedyChain : ∀ (fuel : Nat) (n : BNode) (segs : List Bytes), TInv n →
    lookupC fuel n segs = greedyChain fuel (routesOf n) segs := by
  intro fuel
  induction fuel with
  | zero => intro n segs _; rfl
  | succ f ih =>
    intro ⟨p, h, ks⟩ segs hi
    obtain ⟨hk, hn⟩ := TInv_mk.mp hi
    match segs with
    | [] =>
      simp only [lookupC, greedyChain, BNode.handler]
      exact (find_nil_routesOf p h ks).symm
    | s :: ss =>
      rw [greedyChain_cons, stepStatic_node p h ks s hn, stepParam_node p h ks hn]
      simp only [lookupC, BNode.kids]
      by_cases hs : s = []
      · simp [hs]
      · simp only [ne_eq, hs, not_false_eq_true, true_and, if_true]
        -- the param alternative is the same on both sides
        have hparam : (match findParam ks with
              | some k => (lookupC f k ss).map fun (h, ps) => (h, s :: ps)
              | none => none) =
            if routesOfOpt (findParam ks) ≠ [] then
              (greedyChain f (routesOfOpt (findParam ks)) ss).map fun (h, ps) => (h, s :: ps)
            else none := by
          match hfp : findParam ks with
          | none => simp [routesOfOpt]
          | some kp =>
            obtain ⟨hip, hnep, _⟩ := KInv_iff.mp hk kp (findParam_mem hfp).1
            simp only [routesOfOpt, ne_eq, hnep, not_false_eq_true, if_true, ih kp ss hip]
        match hfs : findStatic ks s with
        | none =>
          simp only [routesOfOpt, not_true_eq_false, if_false]
          exact hparam
        | some k1 =>
          obtain ⟨hi1, hne1, _⟩ := KInv_iff.mp hk k1 (findStatic_mem hfs).1
          simp only [routesOfOpt, hne1, not_false_eq_true, if_true]
          rcases chainMatch_followChain (ss.length + 1) k1 ss hi1 hne1 with ⟨h1, h2⟩ | ⟨k', ss', h1, h2, hi', _⟩
          · rw [h1, h2]
            exact hparam
          · rw [h1, h2]
            exact ih k' ss' hi'

end Ohkami
