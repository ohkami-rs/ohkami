import OhkamiModel.Basic
/-! C01: route tables, the literal statics-first walk `greedy`, `Matches` / `MoreStatic`, and path segmentation.
    The byte-level `FNode` / `searchTarget` below is a sketch that no theorem speaks of; the router that is
    proved about is `RNode` / `searchTop` (P/Final.lean, P/Finalize.lean). -/

namespace Ohkami

def slash : UInt8 := 47

inductive Seg where
  | static (s : Bytes)      -- segment text without the leading '/'
  | param
deriving DecidableEq, Repr, Inhabited

abbrev Route := List Seg

/-! ## Spec: greedy, segment-level, on the flat route table -/

-- routes whose next segment is the static segment `s`, with that segment consumed
def stepStatic (rs : List (Route × Nat)) (s : Bytes) : List (Route × Nat) :=
  rs.filterMap fun (r, h) =>
    match r with
    | .static x :: t => if x = s then some (t, h) else none
    | _ => none

-- routes whose next segment is a param, with that segment consumed
def stepParam (rs : List (Route × Nat)) : List (Route × Nat) :=
  rs.filterMap fun (r, h) =>
    match r with
    | .param :: t => some (t, h)
    | _ => none

def greedy : List (Route × Nat) → List Bytes → Option (Nat × List Bytes)
  | rs, [] => (rs.find? (fun rh => rh.1 = [])).map fun rh => (rh.2, [])
  | rs, s :: ss =>
    if s ≠ [] ∧ stepStatic rs s ≠ [] then greedy (stepStatic rs s) ss
    else if s ≠ [] ∧ stepParam rs ≠ [] then
      (greedy (stepParam rs) ss).map fun (h, ps) => (h, s :: ps)
    else none

-- a route matches a segment list, binding params
inductive Matches : Route → List Bytes → List Bytes → Prop
  | nil : Matches [] [] []
  | static {r segs ps} (s : Bytes) : s ≠ [] → Matches r segs ps → Matches (.static s :: r) (s :: segs) ps
  | param {r segs ps} (s : Bytes) : s ≠ [] → Matches r segs ps → Matches (.param :: r) (s :: segs) (s :: ps)

-- `r` is at least as static as `r'` at the first position where their kinds differ
inductive MoreStatic : Route → Route → Prop
  | refl (r) : MoreStatic r r
  | here (s r r') : MoreStatic (.static s :: r) (.param :: r')
  | static (s r r') : MoreStatic r r' → MoreStatic (.static s :: r) (.static s :: r')
  | param (r r') : MoreStatic r r' → MoreStatic (.param :: r) (.param :: r')

def NodupRoutes (rs : List (Route × Nat)) : Prop := (rs.map (·.1)).Nodup




/-! ## Model: final tree and byte-level search (router/final.rs) -/

inductive Pat where
  | static (bs : Bytes)     -- bytes *with* leading '/', possibly several segments, or [] at the root
  | param
deriving DecidableEq, Repr

inductive FNode where
  | mk (pat : Pat) (handler : Option Nat) (kids : List FNode)
deriving Repr

def splitNextSection : Bytes → Bytes × Bytes
  | [] => ([], [])
  | b :: bs => if b = slash then ([], b :: bs) else
      let (a, r) := splitNextSection bs; (b :: a, r)

-- `Pattern::take_through`; the flag is the segment-boundary condition of fix F1 (`true` is the code)
def takeThrough (boundary : Bool) (p : Pat) (bytes : Bytes) : Option (Bytes × Option Bytes) :=
  match p with
  | .static s =>
    if s.isPrefixOf bytes then
      let rem := bytes.drop s.length
      if boundary && !(rem.isEmpty || rem.head? == some slash) then none else some (rem, none)
    else none
  | .param =>
    match bytes with
    | b0 :: b1 :: _ =>
      if b0 = slash ∧ b1 ≠ slash then
        let (pv, rem) := splitNextSection (bytes.drop 1)
        some (rem, some pv)
      else none
    | _ => none

-- result of `search_target`: (node's handler if hit, params) ; `none` = catch (404)
mutual
def searchKids (b : Bool) : List FNode → Nat → Bytes → List Bytes → Option (Nat × List Bytes)
  | [], _, _, _ => none
  | k :: ks, fuel, bytes, ps =>
    match k with
    | .mk pat h kids =>
      match takeThrough b pat bytes with
      | some (rem, pv) =>
        let ps' := match pv with | some v => ps ++ [v] | none => ps
        if rem.isEmpty then h.map (·, ps')
        else match fuel with
          | 0 => none
          | fuel + 1 => searchKids b kids fuel rem ps'
      | none => searchKids b ks fuel bytes ps
end

def searchTarget (b : Bool) (root : FNode) (bytes : Bytes) : Option (Nat × List Bytes) :=
  searchKids b [root] (bytes.length + 1) bytes []

/-! path normalisation (request/path.rs) and segmentation (spec side) -/
def normalize (p : Bytes) : Bytes := if p.getLast? = some slash then p.dropLast else p

theorem splitNextSection_snd_length (bs : Bytes) : (splitNextSection bs).2.length ≤ bs.length := by
  induction bs with
  | nil => simp [splitNextSection]
  | cons b bs ih =>
    simp only [splitNextSection]
    split
    · simp
    · simp only [List.length_cons]; omega

def segments : Bytes → List Bytes
  | [] => []
  | _ :: bs => (splitNextSection bs).1 :: segments (splitNextSection bs).2
termination_by bs => bs.length
decreasing_by
  have := splitNextSection_snd_length bs
  simp only [List.length_cons]; omega

end Ohkami
