import OhkamiModel.P.FangsFinal
import OhkamiModel.M.RouterFull
/-! The loop-shaped search of the executable model (`searchP`: shaped like `Node::search_target`, it also collects the path params) answers
    with the same fang list and the same handler as `search`, the function the theorems of C01 / C04 are about — on every finalized router
    and every path, given fuel for one step per segment. -/
namespace Ohkami.Fangs
open Ohkami

theorem takePatsP_fst : ∀ (ps : List Seg) (ss : List Bytes), (takePatsP ps ss).map (·.1) = takePats ps ss := by
  intro ps ss
  fun_induction takePatsP ps ss
  -- the param that takes a segment is the one clause where the captures change
  case case4 ps s ss hs ih =>
    rw [takePats, if_pos hs, ← ih, Option.map_map]
    rfl
  all_goals simp [takePats, *]

theorem takePatsP_some {ps : List Seg} {ss r cap : List Bytes} (h : takePatsP ps ss = some (r, cap)) : takePats ps ss = some r := by
  rw [← takePatsP_fst, h]
  rfl

theorem takePatsP_none {ps : List Seg} {ss : List Bytes} (h : takePatsP ps ss = none) : takePats ps ss = none := by
  rw [← takePatsP_fst, h]
  rfl

theorem firstKidP_eq (rest : List Bytes) : ∀ kids : List CN, firstKidP kids rest =
    (kids.find? fun k => (takePats k.pats rest).isSome).bind fun k => (takePatsP k.pats rest).map fun rc => (k, rc) := by
  intro kids
  fun_induction firstKidP kids rest
  case case1 => rfl
  case case2 ps f h ks more r cap hp => simp [takePatsP_some hp, hp]
  case case3 ps f h ks more hp ih => simp [takePatsP_none hp, ih]

-- every child, at every depth, has a pattern of at least one segment (true of every finalized router: only the root has none)
mutual
def NEk : CN → Prop
  | .mk _ _ _ ks => NEks ks
def NEks : List CN → Prop
  | [] => True
  | k :: ks => k.pats ≠ [] ∧ NEk k ∧ NEks ks
end

theorem neks_iff : ∀ ks : List CN, NEks ks ↔ ∀ k ∈ ks, k.pats ≠ [] ∧ NEk k
  | [] => by simp [NEks]
  | k :: ks => by simp [NEks, neks_iff ks, and_assoc]

theorem go_eq_after : ∀ (n G : Nat) (ps : List Seg) (f : List Nat) (h : Option Nat) (ks : List CN) (s : Bytes) (r0 caps : List Bytes),
    NEks ks → r0.length < n → r0.length < G →
    ((searchP.go n (.mk ps f h ks) (s :: r0) caps).1, (searchP.go n (.mk ps f h ks) (s :: r0) caps).2.1) = after G f h ks (s :: r0) := by
  intro n
  induction n with
  | zero => intro G ps f h ks s r0 caps _ hn; omega
  | succ n ih =>
    intro G ps f h ks s r0 caps hk hn hG
    obtain ⟨G, rfl⟩ : ∃ G', G = G' + 1 := ⟨G - 1, by omega⟩
    simp only [searchP.go, after, firstKidP_eq]
    cases hfk : ks.find? fun k => (takePats k.pats (s :: r0)).isSome with
    | none => rfl
    | some k =>
      obtain ⟨hkne, hknk⟩ := (neks_iff ks).mp hk k (List.mem_of_find?_eq_some hfk)
      have htake := List.find?_some hfk
      obtain ⟨ps', f', h', ks'⟩ := k
      rw [CN.pats_mk] at hkne htake
      cases hp : takePatsP ps' (s :: r0) with
      | none => simp [takePatsP_none hp] at htake
      | some rc =>
        obtain ⟨r, cap⟩ := rc
        -- the child found takes `s :: r0` and leaves `r`: with `r = []` both answer with the child, else both go on below it
        have e := takePatsP_some hp
        have hlen := takePats_len ps' (s :: r0) r e
        have hps : 0 < ps'.length := List.length_pos_iff.mpr hkne
        simp only [Option.bind_some, CN.pats_mk, hp, Option.map_some, search_succ, e]
        cases r with
        | nil => rfl
        | cons s1 r1 =>
          simp only [List.length_cons] at hlen
          exact ih G ps' f' h' ks' s1 r1 (caps ++ cap) hknk (by omega) (by omega)

theorem searchP_eq_search (G : Nat) (cn : CN) (ss caps : List Bytes) (hn : NEk cn) (hG : ss.length + 1 ≤ G) :
    ((searchP G cn ss caps).1, (searchP G cn ss caps).2.1) = search G cn ss := by
  obtain ⟨G, rfl⟩ : ∃ G', G = G' + 1 := ⟨G - 1, by omega⟩
  obtain ⟨ps, f, h, ks⟩ := cn
  simp only [search_succ, searchP]
  cases hp : takePatsP ps ss with
  | none => rw [takePatsP_none hp]
  | some rc =>
    obtain ⟨rest, cap⟩ := rc
    have e := takePatsP_some hp
    have hlen := takePats_len ps ss rest e
    rw [e]
    cases rest with
    | nil => rfl
    | cons s1 r1 =>
      simp only [List.length_cons] at hlen
      exact go_eq_after G G ps f h ks s1 r1 (caps ++ cap) hn (by omega) (by omega)

theorem finalize_nek : ∀ (F : Nat) (t : BN) (o : Bool), Every OKL t → NEk (finalize true F t o) := by
  intro F
  induction F with
  | zero => intro ⟨p, f, h, ks⟩ o _; simp [finalize, NEk, NEks]
  | succ F ih =>
    intro ⟨p, f, h, ks⟩ o hok
    obtain ⟨chain, ⟨pe, fe, he, kse⟩, hc, hfin⟩ := finalize_eq (F + 1) p f h ks o
    have hoke := hc.every (every_inhKids f hok)
    rw [hfin, NEk, neks_iff]
    intro K hK
    obtain ⟨F', k, hF, hk, rfl⟩ := mem_finKids hK
    cases hF
    obtain ⟨sk, hsk⟩ := kid_pat hoke.1 hk
    obtain ⟨chain', hc'⟩ : ∃ chain', (fin F fe k).pats = k.pat.toList ++ chain' := pats_finalize F k _
    exact ⟨by simp [BN.fangs, hc', hsk], ih k _ (hoke.kid hk)⟩

end Ohkami.Fangs
