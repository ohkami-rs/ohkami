import OhkamiModel.P.Fangs
namespace Ohkami.Fangs
open Ohkami

/-! C04, order: the fold of `into_proc_with` (first of the list built first) is the onion of the reversed list -/
-- one `Fangs::build` around an inner proc, with the proc represented by the trace it produces
def buildF (passes : Nat → Bool) (f : Nat) (inner : List Ev) : List Ev :=
  if passes f then .enter f :: inner ++ [.leave f] else [.enter f]

-- `FangsList::into_proc_with` (`router/base.rs`): `iter.fold(most_inner.build(h.proc), |proc, fangs| fangs.build(proc))`
def intoProc (passes : Nat → Bool) (l : List Nat) (h : Option Nat) : List Ev :=
  l.foldl (fun proc f => buildF passes f proc) [.handler h]

theorem onion_foldr (passes : Nat → Bool) (h : Option Nat) :
    ∀ l, onion passes l h = l.foldr (fun f inner => buildF passes f inner) [.handler h] := by
  intro l
  induction l with
  | nil => rfl
  | cons f l ih => simp [onion, buildF, ih]

/-- **C04, order.** Whatever list of fangs a node carries (innermost first), the proc built from it lets a request
    through the fangs outermost first, then the handler, then back in reverse, and stops at the first fang that
    answers by itself. -/
theorem intoProc_onion (passes : Nat → Bool) (l : List Nat) (h : Option Nat) :
    intoProc passes l h = onion passes l.reverse h := by
  rw [onion_foldr, List.foldr_reverse]; rfl

-- an early answer cuts everything inside it: nothing after `enter f` except the `leave`s of the fangs outside
theorem early_answer (passes : Nat → Bool) (outer inner : List Nat) (f : Nat) (h : Option Nat) (hf : passes f = false)
    (hout : ∀ g ∈ outer, passes g = true) :
    onion passes (outer ++ f :: inner) h = outer.map .enter ++ [.enter f] ++ outer.reverse.map .leave := by
  induction outer with
  | nil => simp [onion, hf]
  | cons g gs ih =>
    have hg := hout g (by simp)
    have := ih (fun g' hg' => hout g' (by simp [hg']))
    simp [onion, hg, this]

/-! ### the configuration on which the defect F2 repairs shows (P with fangs mounts A with fangs at `/a`, A has `/x`);
    its runs before and after the repair are the `example`s of `FangsExamples.lean` -/
def A : App := .mk 1 true [([.static [120]], 7)] []
def P1 : App := .mk 0 true [] [([.static [97]], A)]
def run (rep : Bool) (cfg : App) (ss : List Bytes) : Option (List Nat × Option Nat) :=
  (build cfg).map fun t => search 10 (finalize rep 10 t false) ss

end Ohkami.Fangs
