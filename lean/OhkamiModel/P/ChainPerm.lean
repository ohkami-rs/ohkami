import OhkamiModel.P.ChainProofs
/-! Registration order does not matter: `greedyChain` reads the table only through `handlerAt`, the first handler
    registered for a route, and one step of the table is one step of the route asked for, so nothing has to be
    preserved along the descent. -/
namespace Ohkami

/-- the handler the table holds for route `r`: the first one registered -/
def handlerAt (rs : List (Route × Nat)) (r : Route) : Option Nat := (rs.find? fun rh => rh.1 = r).map (·.2)

/-- two tables that answer every route alike; `greedyChain` cannot tell them apart (`chain_congr`) -/
def Same (rs rs' : List (Route × Nat)) : Prop := ∀ r, handlerAt rs r = handlerAt rs' r

theorem handlerAt_cons (r' : Route) (h : Nat) (rs : List (Route × Nat)) (r : Route) :
    handlerAt ((r', h) :: rs) r = if r' = r then some h else handlerAt rs r := by
  simp only [handlerAt, List.find?_cons]
  by_cases hr : r' = r <;> simp [hr]

theorem handlerAt_step (x : Seg) (rs : List (Route × Nat)) (t : Route) :
    handlerAt (step x rs) t = handlerAt rs (x :: t) := by
  induction rs with
  | nil => rfl
  | cons rh rs ih =>
    obtain ⟨r, h⟩ := rh
    by_cases hr : ∃ t', r = x :: t'
    · obtain ⟨t', rfl⟩ := hr
      rw [step_cons_eq, handlerAt_cons, handlerAt_cons, ih]
      simp
    · have hr' : ∀ t', r ≠ x :: t' := fun t' e => hr ⟨t', e⟩
      rw [step_cons_ne x h rs hr', handlerAt_cons, if_neg (hr' t), ih]

theorem handlerAt_isSome {rs : List (Route × Nat)} {r : Route} : (handlerAt rs r).isSome ↔ ∃ h, (r, h) ∈ rs := by
  simp only [handlerAt, Option.isSome_map, List.find?_isSome, decide_eq_true_eq]
  constructor
  · rintro ⟨⟨r', h⟩, hm, rfl⟩; exact ⟨h, hm⟩
  · rintro ⟨h, hm⟩; exact ⟨(r, h), hm, rfl⟩

theorem handlerAt_eq_none {rs : List (Route × Nat)} {r : Route} (h : ∀ a, (r, a) ∉ rs) : handlerAt rs r = none := by
  apply Option.not_isSome_iff_eq_none.mp
  rw [handlerAt_isSome]
  exact fun ⟨a, ha⟩ => h a ha

theorem Same.step {rs rs' : List (Route × Nat)} (h : Same rs rs') (x : Seg) : Same (step x rs) (step x rs') := by
  intro t
  rw [handlerAt_step, handlerAt_step, h]

theorem Same.stepStatic {rs rs' : List (Route × Nat)} (h : Same rs rs') (s : Bytes) :
    Same (stepStatic rs s) (stepStatic rs' s) := by
  rw [stepStatic_eq, stepStatic_eq]
  exact h.step _

theorem Same.routes {rs rs' : List (Route × Nat)} (h : Same rs rs') {r : Route} {a : Nat} (hm : (r, a) ∈ rs) :
    ∃ b, (r, b) ∈ rs' := by
  rw [← handlerAt_isSome, ← h r, handlerAt_isSome]
  exact ⟨a, hm⟩

theorem Same.symm {rs rs' : List (Route × Nat)} (h : Same rs rs') : Same rs' rs := fun r => (h r).symm

theorem Same.ne_nil {rs rs' : List (Route × Nat)} (h : Same rs rs') (hne : rs ≠ []) : rs' ≠ [] := by
  match rs, hne with
  | (r, a) :: _, _ =>
    obtain ⟨b, hb⟩ := h.routes (r := r) (a := a) (by simp)
    exact List.ne_nil_of_mem hb

theorem Same.ne_nil_iff {rs rs' : List (Route × Nat)} (h : Same rs rs') : rs ≠ [] ↔ rs' ≠ [] :=
  ⟨h.ne_nil, h.symm.ne_nil⟩

theorem Same.forcedNext_eq {rs rs' : List (Route × Nat)} (h : Same rs rs') : forcedNext rs = forcedNext rs' := by
  have key : ∀ {a b : List (Route × Nat)}, Same a b → ∀ c, forcedNext a = some c → forcedNext b = some c := by
    intro a b hab c hc
    rw [forcedNext_iff] at hc ⊢
    refine ⟨hab.ne_nil hc.1, ?_⟩
    intro ⟨r, x⟩ hm
    obtain ⟨y, hy⟩ := hab.symm.routes hm
    exact hc.2 (r, y) hy
  apply Option.ext
  intro c
  exact ⟨key h c, key h.symm c⟩

theorem Same.chainMatch_eq (fuel : Nat) {rs rs' : List (Route × Nat)} (ss : List Bytes) (h : Same rs rs') :
    (chainMatch fuel rs ss = none ∧ chainMatch fuel rs' ss = none) ∨
    ∃ a a' ss', chainMatch fuel rs ss = some (a, ss') ∧ chainMatch fuel rs' ss = some (a', ss') ∧ Same a a' := by
  fun_induction chainMatch fuel rs ss generalizing rs' with
  | case1 rs ss => exact .inr ⟨rs, rs', ss, rfl, rfl, h⟩
  | case2 f rs ss hf => exact .inr ⟨rs, rs', ss, rfl, by simp [chainMatch, ← h.forcedNext_eq, hf], h⟩
  | case3 f rs c ss' hf ih =>
    have := ih (h.stepStatic c)
    simpa [chainMatch, ← h.forcedNext_eq, hf] using this
  | case4 f rs c hf s' ss' hne => exact .inl ⟨rfl, by simp [chainMatch, ← h.forcedNext_eq, hf, hne]⟩
  | case5 f rs c hf => exact .inl ⟨rfl, by simp [chainMatch, ← h.forcedNext_eq, hf]⟩

theorem chain_congr : ∀ (fuel : Nat) (rs rs' : List (Route × Nat)) (segs : List Bytes),
    Same rs rs' → greedyChain fuel rs segs = greedyChain fuel rs' segs := by
  intro fuel
  induction fuel with
  | zero => intro rs rs' segs _; rfl
  | succ f ih =>
    intro rs rs' segs h
    match segs with
    | [] =>
      have := congrArg (Option.map fun x => (x, ([] : List Bytes))) (h [])
      simpa only [handlerAt, Option.map_map, greedyChain, Function.comp_def] using this
    | s :: ss =>
      have hst := h.stepStatic s
      have hsp : Same (stepParam rs) (stepParam rs') := by
        rw [stepParam_eq, stepParam_eq]; exact h.step _
      rw [greedyChain_cons, greedyChain_cons]
      simp only [hst.ne_nil_iff, hsp.ne_nil_iff, ih _ _ ss hsp]
      by_cases hc : s ≠ [] ∧ stepStatic rs' s ≠ []
      · rw [if_pos hc, if_pos hc]
        rcases hst.chainMatch_eq (ss.length + 1) ss with ⟨h1, h2⟩ | ⟨a, a', ss', h1, h2, ha⟩
        · rw [h1, h2]
        · rw [h1, h2]
          exact ih _ _ ss' ha
      · rw [if_neg hc, if_neg hc]

theorem NodupRoutes_perm {rs rs' : List (Route × Nat)} (h : rs.Perm rs') (hn : NodupRoutes rs) : NodupRoutes rs' := by
  unfold NodupRoutes at *
  exact (h.map _).nodup hn

theorem handlerAt_mem {rs : List (Route × Nat)} {r : Route} {h : Nat} (e : handlerAt rs r = some h) : (r, h) ∈ rs := by
  simp only [handlerAt, Option.map_eq_some_iff] at e
  obtain ⟨⟨r', h'⟩, hf, rfl⟩ := e
  have hr : r' = r := by simpa using List.find?_some hf
  exact hr ▸ List.mem_of_find?_eq_some hf

theorem handlerAt_of_mem {rs : List (Route × Nat)} {r : Route} {h : Nat} (hn : NodupRoutes rs) (hm : (r, h) ∈ rs) :
    handlerAt rs r = some h := by
  obtain ⟨h', e⟩ := Option.isSome_iff_exists.mp (handlerAt_isSome.mpr ⟨h, hm⟩)
  rw [e, NodupRoutes_unique hn (handlerAt_mem e) hm]

theorem Same.of_perm {rs rs' : List (Route × Nat)} (hp : rs.Perm rs') (hn : NodupRoutes rs) : Same rs rs' := by
  intro r
  apply Option.ext
  intro h
  exact ⟨fun e => handlerAt_of_mem (NodupRoutes_perm hp hn) (hp.mem_iff.mp (handlerAt_mem e)),
    fun e => handlerAt_of_mem hn (hp.mem_iff.mpr (handlerAt_mem e))⟩

theorem chain_perm (fuel : Nat) (rs rs' : List (Route × Nat)) (segs : List Bytes)
    (hp : rs.Perm rs') (hn : NodupRoutes rs) : greedyChain fuel rs segs = greedyChain fuel rs' segs :=
  chain_congr fuel rs rs' segs (Same.of_perm hp hn)

end Ohkami
