/-! C20: `ohkami_lib::num::itoa` — the 19-level unrolled macro as a recursive function, against canonical decimal. -/
namespace Ohkami.Num

-- unroll!(d, d+1, …, 19): digits pushed (most significant first) and the reduced `n`
def go : Nat → Nat → Nat → List Nat × Nat
  | 0, _, n => ([], n)
  | fuel + 1, d, n =>
    if d ≤ 19 ∧ n ≥ 10 ^ d then
      let r := go fuel (d + 1) n
      let q := r.2 / 10 ^ d
      (r.1 ++ [q], r.2 - 10 ^ d * q)
    else ([], n)

def itoaDigits (n : Nat) : List Nat := let r := go 19 1 n; r.1 ++ [r.2]

/-! spec: canonical big-endian decimal digits -/
def digitsBE (n : Nat) : List Nat := if h : n < 10 then [n] else digitsBE (n / 10) ++ [n % 10]
termination_by n
decreasing_by omega

-- digits of the part above position `d`; nothing if that part is zero
def digitsAbove (m : Nat) : List Nat := if m = 0 then [] else digitsBE m

theorem digitsBE_eq (n : Nat) : digitsBE n = digitsAbove (n / 10) ++ [n % 10] := by
  rw [digitsBE, digitsAbove]
  by_cases h10 : n < 10
  · have : n / 10 = 0 := by omega
    simp [h10, this, Nat.mod_eq_of_lt h10]
  · have : n / 10 ≠ 0 := by omega
    simp [h10, this]

theorem digitsAbove_step (m : Nat) (h : 1 ≤ m) : digitsAbove m = digitsAbove (m / 10) ++ [m % 10] := by
  rw [← digitsBE_eq, digitsAbove, if_neg (by omega)]

theorem go_spec (fuel d n : Nat) : 1 ≤ d → 20 ≤ fuel + d → n < 10 ^ 20 →
    (go fuel d n).1 = digitsAbove (n / 10 ^ d) ∧ (go fuel d n).2 = n % 10 ^ d ∧ ∀ q ∈ (go fuel d n).1, q < 10 := by
  -- where `go` stops nothing is left above position `d`
  have stop : ∀ {d n : Nat}, n < 10 ^ d →
      [] = digitsAbove (n / 10 ^ d) ∧ n = n % 10 ^ d ∧ ∀ q ∈ ([] : List Nat), q < 10 :=
    fun hlt => by simp [digitsAbove, Nat.div_eq_of_lt hlt, Nat.mod_eq_of_lt hlt]
  have big : ∀ {d : Nat}, 20 ≤ d → 10 ^ 20 ≤ 10 ^ d := Nat.pow_le_pow_right (by decide)
  fun_induction go fuel d n with
  | case1 d n =>
    intro _ hf hn
    exact stop (Nat.lt_of_lt_of_le hn (big (by omega)))
  | case2 f d n hc r q ih =>
    intro hd hf hn
    obtain ⟨h1, h2, h3⟩ := ih (by omega) (by omega) hn
    have hpos : 0 < 10 ^ d := Nat.pow_pos (by decide)
    have hpow : 10 ^ (d + 1) = 10 ^ d * 10 := Nat.pow_succ 10 d
    have hq : q = n / 10 ^ d % 10 := by
      show r.2 / 10 ^ d = _
      rw [h2, hpow, Nat.mod_mul_right_div_self]
    have hm1 : 1 ≤ n / 10 ^ d := (Nat.le_div_iff_mul_le hpos).mpr (by simpa using hc.2)
    refine ⟨?_, ?_, ?_⟩
    · show r.1 ++ [q] = _
      rw [hq, h1, digitsAbove_step _ hm1, hpow, Nat.div_div_eq_div_mul]
    · show r.2 - 10 ^ d * q = _
      rw [← Nat.mod_def, h2, hpow]
      exact Nat.mod_mul_right_mod n (10 ^ d) 10
    · intro x hx
      rcases List.mem_append.mp hx with hx | hx
      · exact h3 x hx
      · rw [List.mem_singleton.mp hx, hq]; exact Nat.mod_lt _ (by decide)
  | case3 f d n hc =>
    intro _ hf hn
    refine stop ?_
    by_cases hd19 : d ≤ 19
    · exact Nat.lt_of_not_le fun h => hc ⟨hd19, h⟩
    · exact Nat.lt_of_lt_of_le hn (big (by omega))

/-- `itoa` writes the canonical decimal digits, each a single digit (so `b'0' + q as u8` is a digit), for every `usize` -/
theorem itoa_exact (n : Nat) (hn : n < 2 ^ 64) : itoaDigits n = digitsBE n ∧ ∀ q ∈ itoaDigits n, q < 10 := by
  have hn' : n < 10 ^ 20 := by
    have : (2 : Nat) ^ 64 < 10 ^ 20 := by decide
    omega
  obtain ⟨h1, h2, h3⟩ := go_spec 19 1 n (by decide) (by decide) hn'
  unfold itoaDigits
  simp only [h1, h2, Nat.pow_one]
  refine ⟨(digitsBE_eq n).symm, fun q hq => ?_⟩
  simp only [List.mem_append, List.mem_singleton] at hq
  rcases hq with hq | rfl
  · rw [← h1] at hq; exact h3 q hq
  · exact Nat.mod_lt _ (by decide)

example : itoaDigits 18446744073709551615 = [1,8,4,4,6,7,4,4,0,7,3,7,0,9,5,5,1,6,1,5] := by decide +kernel
example : itoaDigits 0 = [0] := by decide

end Ohkami.Num
