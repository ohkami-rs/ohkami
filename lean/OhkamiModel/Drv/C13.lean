import OhkamiModel.Drv.Common
import OhkamiModel.P.B64
import OhkamiModel.Http
/-! C13 driver: `BasicAuth::fore` on a pair list and an optional Authorization value -/
open Lean Ohkami Ohkami.BasicAuth Drv

namespace DrvC13
def runCase (j : Json) : Except String Json := do
  let c ← j.getObjVal? "case"
  let pairs ← (← jarr c "pairs").toList.mapM fun p => do
    let a ← p.getArr?
    pure (⟨fromHex (← (a.getD 0 Json.null).getStr?), fromHex (← (a.getD 1 Json.null).getStr?)⟩ : Pair)
  let auth : Option Bytes := match jopt c "auth" with
    | some (.str s) => some (fromHex s)
    | _ => none
  let out := match fore Http.validUtf8 pairs auth with
    | .admit => Json.mkObj [("ran", true), ("status", 200), ("challenge", false)]
    | .unauthorized => Json.mkObj [("ran", false), ("status", 401), ("challenge", true)]
    | .panic => Json.mkObj [("outcome", "panic")]
  return Json.mkObj [("id", j.getObjValD "id"), ("model", out)]
end DrvC13
