import OhkamiModel.Drv.Common
import OhkamiModel.P.Sse
/-! C17 driver: a producer schedule -> the items `QueueStream` yields -> the chunked body `send` writes -/
open Lean Ohkami Ohkami.Sse Drv

namespace DrvC17
def runCase (j : Json) : Except String Json := do
  let c ← j.getObjVal? "case"
  if (jopt c "timed").isSome then throw "unmodelled: scenarios in real time (the model has no clock)"
  let sched ← (← jarr c "sched").toList.mapM fun s => do
    let ps ← (← jarr s "pushes").toList.mapM fun p => do pure (fromHex (← p.getStr?))
    pure (⟨ps, ← jbool s "ready"⟩ : PStep)
  let items := drain (sched.length + (allPushes sched).length + 1) ⟨[], false⟩ sched
  return Json.mkObj [("id", j.getObjValD "id"),
    ("model", Json.mkObj [("body", hexJ (body items)), ("items", Json.arr (items.map hexJ).toArray)])]
end DrvC17
