import OhkamiModel.TimeMain
import OhkamiModel.TimeRender
/-! C20: the renderer writes the IMF-fixdate of its fields and touches nothing unchecked; with `fields_correct`, the whole function. -/
namespace Ohkami.Time
open Ohkami.Gen.Time

theorem two_dec (n : Nat) (h : n < 100) : two n = dec 2 n := by
  simp [two, dec, List.range, List.range.loop, show n / 10 % 10 = n / 10 by omega]
theorem day_dec (n : Nat) (h : n < 10) : [48, (48 + n).toUInt8] = dec 2 n := by
  simp [dec, List.range, List.range.loop, show n / 10 % 10 = 0 by omega, show n % 10 = n by omega]
theorem year_dec (y : Nat) (h : y < 10000) : two (y / 100) ++ two (y % 100) = dec 4 y := by
  simp [two, dec, List.range, List.range.loop, show y / 100 / 10 = y / 1000 % 10 by omega,
    show y % 100 / 10 = y / 10 % 10 by omega, show y % 100 % 10 = y % 10 by omega]
theorem wd_table : ∀ i : Fin 7, SHORT_WEEKDAYS_B[i.val]? = some (dayName i.val) := by decide
theorem mo_table : ∀ i : Fin 12, SHORT_MONTHS_B[i.val]? = some (monthName i.val) := by decide

theorem dayName_len (i : Nat) : (dayName i).length = 3 := by unfold dayName; split <;> rfl
theorem monthName_len (i : Nat) : (monthName i).length = 3 := by unfold monthName; split <;> rfl

/-- the renderer writes exactly the 29 bytes of the IMF-fixdate of its fields and touches nothing unchecked,
    whenever the fields are those of a date up to the year 9999 -/
theorem render_exact (F : Fields) (hw : F.wday < 7) (hm : F.monthIdx < 12) (hd : F.day ≤ 31) (hy : F.year ≤ 9999)
    (hh : F.hour < 24) (hmi : F.min < 60) (hs : F.sec < 60) : render F = .ok (imfSpec F) := by
  have e3 : (if F.day < 10 then [48, (48 + F.day).toUInt8] else two F.day) = dec 2 F.day := by
    split
    · exact day_dec _ (by omega)
    · exact two_dec _ (by omega)
  unfold render imfSpec
  simp only [wd_table ⟨F.wday, hw⟩, mo_table ⟨F.monthIdx, hm⟩, e3, two_dec F.hour (by omega), two_dec F.min (by omega),
    two_dec F.sec (by omega), ← year_dec F.year (by omega), List.append_assoc]
  exact if_pos (by simp [dayName_len, monthName_len, dec, two])

/-- **C20, the whole function.** For every timestamp up to 9999-12-31T23:59:59 `imf_fixdate` returns the 29-byte
    IMF-fixdate whose day name, day, month, year and time of day are those of that instant in the proleptic
    Gregorian calendar, and no unchecked access goes out of range. -/
theorem imf_fixdate_exact (t : Nat) (ht : t ≤ 253402300799) :
    let F := fields t
    render F = .ok (imfSpec F)
    ∧ ValidDate F.year (F.monthIdx + 1) F.day
    ∧ dayNumber F.year (F.monthIdx + 1) F.day = t / 86400 + (719163 + 365 + 1)
    ∧ F.wday = (t / 86400 + 4) % 7
    ∧ F.hour = t % 86400 / 3600 ∧ F.min = t % 3600 / 60 ∧ F.sec = t % 60 := by
  obtain ⟨hv, hdn, hwd, hy, hh, hmi, hs⟩ := fields_correct t ht
  have hml : monthLen (isLeap (fields t).year) ((fields t).monthIdx + 1) ≤ 31 := by
    fun_cases monthLen (isLeap (fields t).year) ((fields t).monthIdx + 1) <;> decide
  exact ⟨render_exact _ (by omega) (by have := hv.2.1; omega) (Nat.le_trans hv.2.2.2 hml) hy (by omega) (by omega) (by omega),
    hv, hdn, hwd, hh, hmi, hs⟩

end Ohkami.Time
