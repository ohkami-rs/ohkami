import OhkamiModel.Basic
import OhkamiModel.Days
import OhkamiModel.GenReqHeaders
import OhkamiModel.GenFieldName
import OhkamiModel.GenShutdown
import OhkamiModel.GenSession
import OhkamiModel.GenResHeaders
import OhkamiModel.GenTime
import OhkamiModel.Hex
import OhkamiModel.Http
import OhkamiModel.HttpStages
import OhkamiModel.HttpProofs
import OhkamiModel.Itoa
import OhkamiModel.P.B64
import OhkamiModel.P.B64Proofs
import OhkamiModel.P.BasicAuthProofs
import OhkamiModel.P.Bytes
import OhkamiModel.P.Chain
import OhkamiModel.P.ChainPerm
import OhkamiModel.P.ChainProofs
import OhkamiModel.P.ExceptLemmas
import OhkamiModel.P.Fangs
import OhkamiModel.P.FangsBuild
import OhkamiModel.P.FangsExamples
import OhkamiModel.P.FangsNodup
import OhkamiModel.P.FangsProofs
import OhkamiModel.P.FangsRoutes
import OhkamiModel.P.FangsScope
import OhkamiModel.P.FangsScopeMerge
import OhkamiModel.P.FangsScopeBuild
import OhkamiModel.P.FangsFinal
import OhkamiModel.P.FangsScopeSearch
import OhkamiModel.P.FangsHit
import OhkamiModel.P.Final
import OhkamiModel.P.Finalize
import OhkamiModel.P.FirstMatch
import OhkamiModel.P.Hdrs
import OhkamiModel.P.Jwt
import OhkamiModel.P.Listing
import OhkamiModel.P.Live
import OhkamiModel.P.Percent
import OhkamiModel.P.Resp
import OhkamiModel.P.RespInv
import OhkamiModel.P.RespProofs
import OhkamiModel.P.Router
import OhkamiModel.P.RouterProofs
import OhkamiModel.P.Serde
import OhkamiModel.P.SerdeEnc
import OhkamiModel.P.SerdeFinal
import OhkamiModel.P.SerdePrims
import OhkamiModel.P.SerdeRT
import OhkamiModel.P.SerdeRT3
import OhkamiModel.P.SerdeTotal
import OhkamiModel.P.Shutdown
import OhkamiModel.P.Sse
import OhkamiModel.P.StaticTable
import OhkamiModel.P.TopLevel
import OhkamiModel.P.Trie
import OhkamiModel.P.TrieProofs
import OhkamiModel.TimeMain
import OhkamiModel.TimeProofs
import OhkamiModel.TimeRender
import OhkamiModel.TimeRenderProofs
import OhkamiModel.TimeSpec
import OhkamiModel.TimeTables
import OhkamiModel.M.WaitGroup
import OhkamiModel.P.SearchP
import OhkamiModel.P.FangsLookup
import OhkamiModel.M.Framing
