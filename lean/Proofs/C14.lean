import OhkamiModel.M.CorsProofs
/-! # C14 — property theorems about the CORS model -/
namespace C14
open Ohkami Ohkami.Cors

/-- every response that passes the fang (success, error, 404, preflight) carries the configured origin -/
theorem acao_everywhere (p : Policy) (isOptions : Bool) (acrh : Option Bytes) (r : Inner) :
    (bite p isOptions acrh r).acao = some p.origin := by
  rw [bite_eq]

/-- `Access-Control-Allow-Credentials: true` iff credentials were enabled on a non-wildcard origin; nothing else ever appears there -/
theorem credentials_iff (origin : Bytes) (want : Bool) (ah eh : Option Bytes) (ma : Option Nat) (isOptions : Bool) (acrh : Option Bytes) (r : Inner) :
    (bite (mkPolicy origin want ah eh ma) isOptions acrh r).acac =
      if want = true ∧ origin ≠ STAR then some (ascii "true") else none := by
  rw [bite_eq]
  simp only [mkPolicy, Bool.and_eq_true, bne_iff_ne, ne_eq]

/-- the configured exposed headers are on every response -/
theorem expose_headers (p : Policy) (isOptions : Bool) (acrh : Option Bytes) (r : Inner) :
    (bite p isOptions acrh r).aceh = p.exposeHeaders := by
  rw [bite_eq]

/-- **Preflight**: for a route with registered methods `ms`, a preflight asking for method `m` succeeds (200, no body) iff
`m` is among the registered methods plus HEAD (with GET) plus OPTIONS; otherwise it is answered 400; in both cases it
advertises exactly that list; max-age and the configured-or-echoed request headers are as the policy says. -/
theorem preflight_iff (p : Policy) (ms : List Bytes) (m : Bytes) (acrh : Option Bytes) :
    let o := bite p true acrh (defaultOptions ms (some m))
    (o.status = 200 ↔ (available ms).contains m = true) ∧ ((available ms).contains m = false → o.status = 400) ∧
    o.hasBody = false ∧ o.acam = some (intercalate SEP (available ms)) ∧ o.acma = p.maxAge.map dec ∧
    o.acah = (p.allowHeaders <|> acrh) := by
  intro o
  have ho : o = bite p true acrh (defaultOptions ms (some m)) := rfl
  rw [bite_eq, defaultOptions_some] at ho
  rw [ho]
  -- `defaultOptions` answers 501 for an available method and 400 otherwise, and `bite` turns the 501 of an OPTIONS request into 200 without a body
  cases h : (available ms).contains m <;> simp

/-- an OPTIONS request that is not a preflight (no Access-Control-Request-Method) fails with 404 -/
theorem options_without_method (p : Policy) (ms : List Bytes) (acrh : Option Bytes) :
    (bite p true acrh (defaultOptions ms none)).status = 404 := by
  rw [bite_eq]
  simp [defaultOptions]

end C14
