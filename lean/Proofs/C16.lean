import OhkamiModel.M.Derive
/-! # C16 — derive(Schema) describes the JSON shape serde reads and writes

Statements over ALL type definitions of the modelled grammar (any number of fields / variants, any identifiers, any of the
eight rules, any combination of the attributes).  `Macro.*` transcribes the repository's derive, `Serde.*` serde_derive's
rules and serde's data model; the correspondence check ties each to its code (the real macro sources and the real
serde_derive `internals`, both run on the same generated definitions). -/

namespace Ohkami.Derive.C16
open Ohkami.Derive

theorem allM_cons_eq {α β} (f : α → Option β) (a : α) (as : List α) :
    Macro.allM f (a :: as) = (f a).bind fun b => (Macro.allM f as).map (b :: ·) := by
  cases h : f a <;> simp [Macro.allM, h]

theorem allM_eq_some_iff {α β} (f : α → Option β) (l : List α) (out : List β) :
    Macro.allM f l = some out ↔ l.map f = out.map some := by
  fun_induction Macro.allM f l generalizing out with
  | case1 => cases out <;> simp
  | case2 a as h => cases out <;> simp [h]
  | case3 a as b h ih =>
    cases out with
    | nil => simp
    | cons b' bs => simpa [h, ih] using and_comm

theorem allM_cons {α β} (f : α → Option β) (a : α) (as : List α) (b : β) (bs : List β)
    (ha : f a = some b) (hs : Macro.allM f as = some bs) : Macro.allM f (a :: as) = some (b :: bs) := by
  simp [allM_cons_eq, ha, hs]

theorem allM_mem_iff {α β} {f : α → Option β} {l : List α} {out : List β} (h : Macro.allM f l = some out) (b : β) :
    b ∈ out ↔ ∃ a ∈ l, f a = some b := by
  have := congrArg (some b ∈ ·) ((allM_eq_some_iff f l out).mp h)
  simpa [eq_comm] using this.symm

theorem allM_mem {α β} (f : α → Option β) (l : List α) (out : List β) (h : Macro.allM f l = some out) : ∀ b ∈ out, ∃ a ∈ l, f a = some b :=
  fun b => (allM_mem_iff h b).mp

theorem allM_sound {α β} (f g : α → Option β) (l : List α) (out : List β)
    (hfg : ∀ a b, f a = some b → g a = some b) (h : Macro.allM f l = some out) : Macro.allM g l = some out := by
  rw [allM_eq_some_iff] at h ⊢
  rw [← h, List.map_inj_left]
  intro a ha
  have : f a ∈ out.map some := h ▸ List.mem_map_of_mem ha
  obtain ⟨b, -, hb⟩ := List.mem_map.mp this
  rw [← hb, hfg a b hb.symm]

theorem pascal_eq (s : Str) (b : Bool) : Macro.pascalLoop s b = Serde.pascal s b := by
  induction s generalizing b with
  | nil => rfl
  | cons c cs ih => simp [Macro.pascalLoop, Serde.pascal, ih]

theorem snake_eq (s : Str) (i : Nat) : Macro.snakeLoop s (decide (i > 0)) = Serde.snake s i := by
  induction s generalizing i with
  | nil => rfl
  | cons c cs ih =>
    have h := ih (i + 1)
    simp only [Nat.zero_lt_succ, gt_iff_lt, decide_true] at h
    simp [Macro.snakeLoop, Serde.snake, h]

/-- every `rename_all` rule renames every field identifier as serde does (including where both panic) -/
theorem case_field_agrees (r : Rule) (s : Str) : Macro.applyField r s = Serde.applyField r s := by
  cases r <;> simp [Macro.applyField, Serde.applyField, pascal_eq]

/-- every `rename_all` rule renames every variant identifier as serde does -/
theorem case_variant_agrees (r : Rule) (s : Str) : Macro.applyVariant r s = Serde.applyVariant r s := by
  have h := snake_eq s 0
  simp only [gt_iff_lt, Nat.lt_irrefl, decide_false] at h
  cases r <;> simp [Macro.applyVariant, Serde.applyVariant, h]

theorem name_sound {am as : Rule → Str → Option Str} (hag : ∀ r s, am r s = as r s) (ra : Option Rule) (ident : Str) (rn : Option Str) (n : Str)
    (h : Macro.name am ra ident rn = some n) : Serde.name as ra ident rn = some n := by
  cases ra <;> cases rn <;> simp_all [Macro.name, Serde.name]

/-- whenever the macro produces a name it is the name serde writes (the macro applies the rule before looking at `rename`,
so it can panic where serde does not: `rename_all = "camelCase"` on a field called `__` that also has a `rename`) -/
theorem field_name_sound (ra : Option Rule) (ident : Str) (rn : Option Str) (n : Str)
    (h : Macro.name Macro.applyField ra ident rn = some n) : Serde.name Serde.applyField ra ident rn = some n :=
  name_sound case_field_agrees ra ident rn n h

theorem variant_name_sound (ra : Option Rule) (ident : Str) (rn : Option Str) (n : Str)
    (h : Macro.name Macro.applyVariant ra ident rn = some n) : Serde.name Serde.applyVariant ra ident rn = some n :=
  name_sound case_variant_agrees ra ident rn n h

/-- and the macro produces a name whenever the rule itself does not panic -/
theorem field_name_complete (ra : Option Rule) (ident : Str) (rn : Option Str)
    (h : ∀ r, ra = some r → (Serde.applyField r (unraw ident)).isSome) :
    Macro.name Macro.applyField ra ident rn = Serde.name Serde.applyField ra ident rn := by
  cases ra with
  | none => cases rn <;> simp [Macro.name, Serde.name]
  | some r =>
    have := h r rfl
    cases rn <;> simp_all [Macro.name, Serde.name, case_field_agrees, Option.isSome_iff_exists]

/-- the properties accumulated so far, read back as (key, required) -/
def readProps (ps : List (Str × Bool × Sch)) : List (Str × Bool) := ps.map fun p => (p.1, p.2.1)

theorem optional_iff_lenient (cd : Bool) (f : Field) : Macro.isOptional cd f = Serde.lenient cd f := by
  unfold Macro.isOptional Serde.lenient
  ac_rfl

section
variable {ra : Option Rule} {cd : Bool} {f : Field} {fs : List Field}

theorem keys_cons :
    Serde.keys ra cd (f :: fs) =
      if Serde.written f && !f.flatten then
        (Serde.name Serde.applyField ra f.ident f.rename).bind fun n => (Serde.keys ra cd fs).map ((n, !Serde.lenient cd f) :: ·)
      else Serde.keys ra cd fs := by
  simp only [Serde.keys, List.filter_cons]
  split
  · rw [allM_cons_eq, Option.bind_map]
    rfl
  · rfl

theorem keys_cons_unwritten (hw : Serde.written f = false) : Serde.keys ra cd (f :: fs) = Serde.keys ra cd fs := by
  simp [keys_cons, hw]

theorem keys_cons_prop {ps : List (Str × Bool × Sch)} {n : Str} {s : Sch} (hw : Serde.written f = true) (hff : ¬ f.flatten = true)
    (hn : Macro.name Macro.applyField ra f.ident f.rename = some n) :
    (Serde.keys ra cd (f :: fs)).map (readProps ps.reverse ++ ·) =
      (Serde.keys ra cd fs).map (readProps ((n, !Macro.isOptional cd f, s) :: ps).reverse ++ ·) := by
  simp [keys_cons, hw, hff, field_name_sound ra _ _ n hn, readProps, optional_iff_lenient, Function.comp_def]

end

/-- the keys are stated under `Option.map` so that no case has to name a witness -/
theorem namedLoop_spec (ra : Option Rule) (cd : Bool) (fs : List Field) (ps : List (Str × Bool × Sch)) (fl : List (Bool × Sch)) (s : Sch)
    (hw : ∀ f ∈ fs, ¬ (f.flatten = true ∧ f.withFn = true))
    (h : Macro.namedLoop ra cd fs ps fl = some s) :
    ∃ props flat, s = .obj props flat ∧ (Serde.keys ra cd fs).map (readProps ps.reverse ++ ·) = some (readProps props)
      ∧ flat = fl.reverse ++ ((fs.filter fun f => Serde.written f && f.flatten).map fun f => (f.option, Sch.ty f.inner)) := by
  fun_induction Macro.namedLoop ra cd fs ps fl with
  | case1 ps fl =>
    cases h
    exact ⟨_, _, rfl, by simp [Serde.keys, Macro.allM], by simp⟩
  | case2 f fs ps fl hs ih =>
    have hwr : Serde.written f = false := by simp [Serde.written, hs]
    obtain ⟨props, flat, rfl, hk, hfl⟩ := ih (List.forall_mem_cons.mp hw).2 h
    exact ⟨props, flat, rfl, by rwa [keys_cons_unwritten hwr], by simpa [hwr] using hfl⟩
  | case3 f fs ps fl hs hn => cases h
  | case4 f fs ps fl hs n hn hwf ih =>
    have hwr : Serde.written f = true := by simpa [Serde.written] using hs
    have hff : ¬ f.flatten = true := fun hf => hw f (List.mem_cons_self ..) ⟨hf, hwf⟩
    obtain ⟨props, flat, rfl, hk, hfl⟩ := ih (List.forall_mem_cons.mp hw).2 h
    exact ⟨props, flat, rfl, (keys_cons_prop hwr hff hn).trans hk, by simpa [hwr, hff] using hfl⟩
  | case5 f fs ps fl hs n hn hwf hff ih =>
    have hwr : Serde.written f = true := by simpa [Serde.written] using hs
    obtain ⟨props, flat, rfl, hk, hfl⟩ := ih (List.forall_mem_cons.mp hw).2 h
    exact ⟨props, flat, rfl, by simpa [keys_cons, hwr, hff] using hk, by simpa [hwr, hff] using hfl⟩
  | case6 f fs ps fl hs n hn hwf hff ih =>
    have hwr : Serde.written f = true := by simpa [Serde.written] using hs
    obtain ⟨props, flat, rfl, hk, hfl⟩ := ih (List.forall_mem_cons.mp hw).2 h
    exact ⟨props, flat, rfl, (keys_cons_prop hwr hff hn).trans hk, by simpa [hwr, hff] using hfl⟩

theorem namedLoop_keys (ra : Option Rule) (cd : Bool) (fs : List Field) (ps : List (Str × Bool × Sch)) (fl : List (Bool × Sch))
    (props : List (Str × Bool × Sch)) (flat : List (Bool × Sch))
    (hw : ∀ f ∈ fs, ¬ (f.flatten = true ∧ f.withFn = true))
    (h : Macro.namedLoop ra cd fs ps fl = some (.obj props flat)) :
    ∃ ks, Serde.keys ra cd fs = some ks ∧ readProps props = readProps ps.reverse ++ ks
      ∧ flat = fl.reverse ++ ((fs.filter fun f => Serde.written f && f.flatten).map fun f => (f.option, Sch.ty f.inner)) := by
  obtain ⟨_, _, e, hk, hfl⟩ := namedLoop_spec ra cd fs ps fl _ hw h
  cases e
  obtain ⟨ks, hk, hp⟩ := Option.map_eq_some_iff.mp hk
  exact ⟨ks, hk, hp.symm, hfl⟩

/-- **struct.**  Whatever schema the derive builds for named fields, its properties are — in order — exactly the keys serde
writes (name by name, after `rename_all` / `rename` / `r#`), each required iff serde can neither leave it out nor default it,
and the flattened members are exactly the written `flatten` fields.  `hw` leaves out a `flatten` field that also has `schema_with`:
the derive documents it as a property under its own name, serde flattens it. -/
theorem struct_keys_exact (ra : Option Rule) (cd : Bool) (fs : List Field) (s : Sch)
    (hw : ∀ f ∈ fs, ¬ (f.flatten = true ∧ f.withFn = true))
    (h : Macro.schemaOfFields ra cd (.named fs) = some s) :
    ∃ props flat, s = .obj props flat ∧ Serde.keys ra cd fs = some (readProps props)
      ∧ flat = (fs.filter fun f => Serde.written f && f.flatten).map fun f => (f.option, Sch.ty f.inner) := by
  obtain ⟨props, flat, rfl, hk, hfl⟩ := namedLoop_spec ra cd fs [] [] s hw h
  exact ⟨props, flat, rfl, by simpa [readProps] using hk, by simpa using hfl⟩

/-- **all-unit enum.**  The enumerated strings are exactly the variant names serde writes, skipped variants left out. -/
theorem unit_enum_names_exact (e : EnumDef) (s : Sch) (hu : e.variants.all (·.fields.isUnit) = true) (ht : e.tag = none) (hun : e.untagged = false)
    (h : Macro.schemaOfVariants e = some s) : ∃ names, s = .enm names ∧ Serde.unitNames e = some names := by
  unfold Macro.schemaOfVariants at h
  rw [if_pos (by simp [hu, ht, hun]), Option.map_eq_some_iff] at h
  obtain ⟨names, hn, rfl⟩ := h
  exact ⟨names, rfl, allM_sound _ _ _ _ (fun v b => variant_name_sound _ _ _ _) hn⟩

/-- a variant schema realises a wire representation: the tag sits where serde writes it, as the one-value string enumeration -/
def Realises (content : Sch) : Sch → Serde.Wire → Prop
  | s, .bare tag => s = .enm [tag]
  | s, .keyed tag => s = .obj [(tag, true, content)] []
  | s, .inline t tag => (∃ ps fl, content = .obj ps fl ∧ s = .obj (ps ++ [(t, true, .enm [tag])]) fl) ∨
                        ((∀ ps fl, content ≠ .obj ps fl) ∧ s = .extend content t (.enm [tag]))
  | s, .tagOnly t tag => s = .obj [(t, true, .enm [tag])] []
  | s, .adjacent t tag c => s = .obj [(t, true, .enm [tag]), (c, true, content)] []
  | s, .content => s = content

/-- **data-carrying enum, per variant.**  Whatever the derive builds for a variant is: the schema of its fields (under the
variant's `rename_all`, else the enum's `rename_all_fields` — serde's rule) placed exactly as serde's representation for the
enum's tagging mode places the content, with the variant name serde writes. -/
theorem variant_realises (e : EnumDef) (v : Variant) (s : Sch) (h : Macro.variantSch e v = some s) :
    ∃ content w, Macro.schemaOfFields (Serde.variantFieldRule e v) false v.fields = some content
      ∧ Serde.wire e v = some w ∧ Realises content s w := by
  -- one case per way through `variantSch`: no name, no content schema, then one per tagging mode, where `wire` goes the same way
  revert h
  fun_cases Macro.variantSch e v
  case case1 | case2 => exact fun h => nomatch h
  case case3 tag hn content hc hu =>
    rintro ⟨⟩
    exact ⟨_, _, hc, by rw [Serde.wire, variant_name_sound _ _ _ _ hn]; rfl, by simp [Realises, hu]⟩
  case case4 tag hn content hc hu ht =>
    rintro ⟨⟩
    refine ⟨content, _, hc, by rw [Serde.wire, variant_name_sound _ _ _ _ hn]; rfl, ?_⟩
    cases v.fields.isUnit <;> simp [Realises, Macro.tagSch, hu, ht]
  case case5 tag hn content hc hu t hcn ht =>
    rintro ⟨⟩
    refine ⟨content, _, hc, by rw [Serde.wire, variant_name_sound _ _ _ _ hn]; rfl, ?_⟩
    cases content <;> simp [Realises, Macro.addTag, Macro.tagSch, hu, ht, hcn]
  case case6 tag hn content hc hu t c hcn ht =>
    rintro ⟨⟩
    refine ⟨content, _, hc, by rw [Serde.wire, variant_name_sound _ _ _ _ hn]; rfl, ?_⟩
    cases v.fields.isUnit <;> simp [Realises, Macro.tagSch, hu, ht, hcn]

theorem lookup_none_of_not_mem (k : Str) (kvs : List (Str × J)) (h : k ∉ kvs.map (·.1)) : lookup k kvs = none := by
  induction kvs with
  | nil => rfl
  | cons p rest ih =>
    simp only [List.map_cons, List.mem_cons, not_or] at h
    simp [lookup, Ne.symm h.1, ih h.2]

/-- `(o.map (n0, ·)).toList` is what a written field puts in front (`ser_cons`) -/
theorem lookup_optPair (o : Option J) (n0 n : Str) (kvs : List (Str × J)) :
    lookup n ((o.map (n0, ·)).toList ++ kvs) = if n0 = n then o.or (lookup n kvs) else lookup n kvs := by
  cases o with
  | none => simp
  | some j => rfl

theorem key_of_optPair {o : Option J} {n k : Str} (h : k ∈ ((o.map (n, ·)).toList).map (·.1)) : k = n := by
  cases o with
  | none => simp at h
  | some j => simpa using h

section
variable {ra : Option Rule} {cd : Bool} {f : Field} {v : FieldVal} {rest : List (Field × FieldVal)}

theorem ser_cons :
    Serde.ser ra ((f, v) :: rest) =
      if Serde.written f then
        (Serde.name Serde.applyField ra f.ident f.rename).bind fun n => (Serde.ser ra rest).map (((expect v).map (n, ·)).toList ++ ·)
      else Serde.ser ra rest := by
  rw [Serde.ser]
  cases Serde.written f with
  | false => rfl
  | true => cases Serde.name Serde.applyField ra f.ident f.rename <;> cases Serde.ser ra rest <;> cases v <;> rfl

theorem ser_keys_cons {kvs : List (Str × J)} {ks : List (Str × Bool)}
    (hw : Serde.written f = true) (hff : f.flatten = false)
    (hs : Serde.ser ra ((f, v) :: rest) = some kvs) (hk : Serde.keys ra cd (f :: rest.map (·.1)) = some ks) :
    ∃ n kvs' ks', Serde.name Serde.applyField ra f.ident f.rename = some n ∧ Serde.ser ra rest = some kvs' ∧ Serde.keys ra cd (rest.map (·.1)) = some ks'
      ∧ kvs = ((expect v).map (n, ·)).toList ++ kvs' ∧ ks = (n, !Serde.lenient cd f) :: ks' := by
  rw [ser_cons, if_pos hw, Option.bind_eq_some_iff] at hs
  rw [keys_cons, if_pos (by simp [hw, hff]), Option.bind_eq_some_iff] at hk
  obtain ⟨n, hn, hs⟩ := hs
  obtain ⟨n', hn', hk⟩ := hk
  cases hn.symm.trans hn'
  obtain ⟨kvs', hr, rfl⟩ := Option.map_eq_some_iff.mp hs
  obtain ⟨ks', hk', rfl⟩ := Option.map_eq_some_iff.mp hk
  exact ⟨n, kvs', ks', hn, hr, hk', rfl, rfl⟩

theorem ser_cons_unwritten (hw : Serde.written f = false) : Serde.ser ra ((f, v) :: rest) = Serde.ser ra rest := by
  simp [ser_cons, hw]

end

/-- every key written is the serialize name of a written field -/
theorem ser_keys_sub (ra : Option Rule) (cd : Bool) (fvs : List (Field × FieldVal)) (kvs : List (Str × J)) (ks : List (Str × Bool))
    (hnf : ∀ p ∈ fvs, p.1.flatten = false)
    (hs : Serde.ser ra fvs = some kvs) (hk : Serde.keys ra cd (fvs.map (·.1)) = some ks) : ∀ k ∈ kvs.map (·.1), k ∈ ks.map (·.1) := by
  induction fvs generalizing kvs ks with
  | nil => cases hs; simp
  | cons p rest ih =>
    obtain ⟨f, v⟩ := p
    obtain ⟨hff, hnf'⟩ := List.forall_mem_cons.mp hnf
    cases hw : Serde.written f with
    | false =>
      rw [ser_cons_unwritten hw] at hs
      rw [List.map_cons, keys_cons_unwritten hw] at hk
      exact ih kvs ks hnf' hs hk
    | true =>
      obtain ⟨n, kvs', ks', -, hr, hk', rfl, rfl⟩ := ser_keys_cons hw hff hs hk
      intro k hkm
      rw [List.map_append, List.mem_append] at hkm
      rcases hkm with hkm | hkm
      · exact key_of_optPair hkm ▸ List.mem_cons_self ..
      · exact List.mem_cons_of_mem _ (ih kvs' ks' hnf' hr hk' k hkm)

theorem keys_mem {ra : Option Rule} {cd : Bool} {fs : List Field} {ks : List (Str × Bool)} (hk : Serde.keys ra cd fs = some ks)
    {f : Field} (hf : f ∈ fs) (hw : Serde.written f = true) (hff : f.flatten = false) {n : Str}
    (hn : Serde.name Serde.applyField ra f.ident f.rename = some n) : n ∈ ks.map (·.1) :=
  List.mem_map.mpr ⟨_, (allM_mem_iff hk _).mpr ⟨f, by simp [hf, hw, hff], by rw [hn]; rfl⟩, rfl⟩

/-- **the value of every written field sits under its serialize name**, and nothing sits under the name of an omitted one -/
theorem ser_lookup (ra : Option Rule) (cd : Bool) (fvs : List (Field × FieldVal)) (kvs : List (Str × J)) (ks : List (Str × Bool))
    (hnf : ∀ p ∈ fvs, p.1.flatten = false)
    (hs : Serde.ser ra fvs = some kvs) (hk : Serde.keys ra cd (fvs.map (·.1)) = some ks) (hd : (ks.map (·.1)).Nodup) :
    ∀ p ∈ fvs, Serde.written p.1 = true → ∀ n, Serde.name Serde.applyField ra p.1.ident p.1.rename = some n → lookup n kvs = expect p.2 := by
  induction fvs generalizing kvs ks with
  | nil => intro p hp; cases hp
  | cons q rest ih =>
    obtain ⟨f, v⟩ := q
    obtain ⟨hff, hnf'⟩ := List.forall_mem_cons.mp hnf
    intro p hp hpw n hpn
    cases hw : Serde.written f with
    | false =>
      rw [ser_cons_unwritten hw] at hs
      rw [List.map_cons, keys_cons_unwritten hw] at hk
      rcases List.mem_cons.mp hp with rfl | hp
      · rw [hw] at hpw; cases hpw
      · exact ih kvs ks hnf' hs hk hd p hp hpw n hpn
    | true =>
      obtain ⟨n0, kvs', ks', hn, hr, hk', rfl, rfl⟩ := ser_keys_cons hw hff hs hk
      obtain ⟨hn0, hd'⟩ := List.nodup_cons.mp hd
      rcases List.mem_cons.mp hp with rfl | hp
      · -- the head field itself: the rest writes nothing under its name
        cases hn.symm.trans hpn
        rw [lookup_optPair, if_pos rfl, lookup_none_of_not_mem n kvs' fun hm => hn0 (ser_keys_sub ra cd rest kvs' ks' hnf' hr hk' n hm), Option.or_none]
      · -- a later field: its name is among the later keys, so it is not the head's
        have hne : n0 ≠ n := fun e => hn0 (e ▸ keys_mem hk' (List.mem_map_of_mem hp) hpw (hnf' p hp) hpn)
        rw [lookup_optPair, if_neg hne, ih kvs' ks' hnf' hr hk' hd' p hp hpw n hpn]

/-- **Every struct value serde serializes fits the derived schema's properties by name and `required`** (named fields, no flatten;
excluded: an `Option` that is `None` and written as `null` — the recorded finding KF-C16-option-null).  Whatever object schema the derive
builds, and whatever key/value pairs the derived `Serialize` writes for field values that their fields accept (`leafOK`): every property
that is present holds a value that a written field serialized under that name accepts, and every property that is absent is not required.
The schema stored with a property is not looked at: `readProps` drops it and `propOK` judges by the field. -/
theorem struct_value_validates (leafOK : Field → J → Bool) (ra : Option Rule) (cd : Bool) (fvs : List (Field × FieldVal)) (s : Sch) (kvs : List (Str × J))
    (hnf : ∀ p ∈ fvs, p.1.flatten = false)
    (hm : Macro.schemaOfFields ra cd (.named (fvs.map (·.1))) = some s)
    (hs : Serde.ser ra fvs = some kvs)
    (hadm : ∀ p ∈ fvs, Serde.written p.1 = true → Serde.admissible leafOK p.1 p.2 = true)
    (hd : ∀ ks, Serde.keys ra cd (fvs.map (·.1)) = some ks → (ks.map (·.1)).Nodup) :
    ∃ props, s = .obj props [] ∧ validatesObj (propOK leafOK ra fvs) (readProps props) kvs = true := by
  have hnf' : ∀ f ∈ fvs.map (·.1), f.flatten = false := by
    intro f hf
    obtain ⟨p, hp, rfl⟩ := List.mem_map.mp hf
    exact hnf p hp
  obtain ⟨props, flat, rfl, hk, hfl⟩ := struct_keys_exact ra cd (fvs.map (·.1)) s (fun f hf => by simp [hnf' f hf]) hm
  have hflat : flat = [] := by
    rw [hfl, List.map_eq_nil_iff, List.filter_eq_nil_iff]
    intro f hf
    simp [hnf' f hf]
  subst hflat
  refine ⟨props, rfl, ?_⟩
  have hl := ser_lookup ra cd fvs kvs (readProps props) hnf hs hk (hd _ hk)
  simp only [validatesObj, List.all_eq_true]
  intro pr hpr
  -- the property comes from a written field, whose value sits under the property's name
  obtain ⟨f, hf, hfe⟩ := allM_mem _ _ _ hk pr hpr
  obtain ⟨n, hn, rfl⟩ := Option.map_eq_some_iff.mp hfe
  obtain ⟨hf, hwf⟩ := List.mem_filter.mp hf
  obtain ⟨p, hp, rfl⟩ := List.mem_map.mp hf
  have hwr : Serde.written p.1 = true := by simpa [hnf p hp] using hwf
  have hav := hadm p hp hwr
  rw [hl p hp hwr n hn]
  cases hv : p.2 with
  | omitted =>
    rw [hv, Serde.admissible] at hav
    simp [expect, Serde.lenient, hav]
  | null => simp [hv, Serde.admissible] at hav
  | val j =>
    rw [hv, Serde.admissible] at hav
    simp only [expect, propOK, List.any_eq_true]
    exact ⟨p, hp, by simp [hwr, hn, hav]⟩

theorem validates_tag (leaf : Sch → JV → Bool) (f : Nat) (tag : Str) : validates leaf (f + 1) (.enm [tag]) (.str tag) = true := by
  simp [validates]

/-- **a variant's value validates against that variant's schema**, in every representation: externally tagged (bare name / single key),
internally tagged (the content's own properties plus the tag), adjacently tagged (tag alone / tag and content), untagged.  `hin`: an
internally tagged variant has struct-like content whose fields are not called like the tag; `hadj`: tag and content keys differ (serde
refuses the other cases at compile time) -/
theorem variant_value_validates (leaf : Sch → JV → Bool) (f : Nat) (content s : Sch) (w : Serde.Wire) (cj : JV)
    (hr : Realises content s w)
    (hc : validates leaf (f + 2) content cj = true)
    (hin : ∀ t tag, w = .inline t tag → ∃ ps kvs, content = .obj ps [] ∧ cj = .obj kvs ∧ (∀ p ∈ ps, p.1 ≠ t))
    (hadj : ∀ t tag c, w = .adjacent t tag c → t ≠ c) :
    validates leaf (f + 2 + w.depth) s (Serde.serVariant w cj) = true := by
  cases w with
  | bare tag | keyed tag | tagOnly t tag | content =>
    simp only [Realises] at hr
    subst hr
    simp [Serde.serVariant, validates, lookupV, hc, Serde.Wire.depth]
  | adjacent t tag c =>
    simp only [Realises] at hr
    subst hr
    simp [Serde.serVariant, validates, lookupV, hadj t tag c rfl, hc, Serde.Wire.depth]
  | inline t tag =>
    obtain ⟨ps, kvs, hcont, hcj, hne⟩ := hin t tag rfl
    subst hcont hcj
    simp only [Realises] at hr
    rcases hr with ⟨ps', fl', he, hs⟩ | ⟨hno, _⟩
    · cases he; subst hs
      simp only [Serde.serVariant, Serde.Wire.depth, Nat.add_zero, validates, List.isEmpty_nil, Bool.true_and, List.all_append, List.all_cons,
        List.all_nil, Bool.and_true, Bool.and_eq_true]
      constructor
      · -- a property of the content is looked up behind the tag pair, whose key is none of theirs (`hne`): `hc` as it stands
        simp only [validates, List.isEmpty_nil, Bool.true_and] at hc
        rw [List.all_eq_true] at hc ⊢
        intro p hp
        have := hc p hp
        have hpt : ¬ t = p.1 := fun e => hne p hp e.symm
        simpa [lookupV, hpt] using this
      · simp [lookupV, validates_tag]
    · exact absurd rfl (hno ps [])

/-- **a variant's value does not validate against ANOTHER externally tagged variant's schema** when the names differ: the alternatives of
the `oneOf` are disjoint -/
theorem external_disjoint (leaf : Sch → JV → Bool) (f : Nat) (c1 c2 s2 : Sch) (w1 w2 : Serde.Wire) (cj : JV) (t1 t2 : Str)
    (h1 : w1 = .bare t1 ∨ w1 = .keyed t1) (h2 : w2 = .bare t2 ∨ w2 = .keyed t2) (hne : t1 ≠ t2) (hr2 : Realises c2 s2 w2) :
    validates leaf (f + 1) s2 (Serde.serVariant w1 cj) = false := by
  rcases h1 with rfl | rfl <;> rcases h2 with rfl | rfl <;> simp only [Realises] at hr2 <;> subst hr2 <;>
    simp [Serde.serVariant, validates, lookupV, hne]

/-- the alternatives of `external_enum_validates` are the shapes the derive builds (`variant_realises`) for the externally tagged
representations -/
theorem ext_schema_realises (v : ExtVariant) : Realises v.content v.schema (if v.unit then .bare v.tag else .keyed v.tag) := by
  unfold ExtVariant.schema
  cases v.unit <;> simp [Realises]

theorem ExtVariant.value_eq (v : ExtVariant) (cj : JV) : v.value cj = Serde.serVariant (if v.unit then .bare v.tag else .keyed v.tag) cj := by
  unfold ExtVariant.value
  cases v.unit <;> rfl

theorem ext_own (leaf : Sch → JV → Bool) (f : Nat) (v : ExtVariant) (cj : JV) (hc : v.unit = false → validates leaf (f + 2) v.content cj = true) :
    validates leaf (f + 3) v.schema (v.value cj) = true := by
  unfold ExtVariant.schema ExtVariant.value
  cases hu : v.unit with
  | true => simp [validates]
  | false => simp [validates, lookupV, hc hu]

theorem ext_other (leaf : Sch → JV → Bool) (f : Nat) (v u : ExtVariant) (cj : JV) (hne : v.tag ≠ u.tag) :
    validates leaf (f + 1) u.schema (v.value cj) = false := by
  rw [ExtVariant.value_eq]
  exact external_disjoint leaf f u.content u.content u.schema _ _ cj v.tag u.tag (by cases v.unit <;> simp) (by cases u.unit <;> simp) hne
    (ext_schema_realises u)

/-- **Every value of an externally tagged enum validates against the derived `oneOf`**: it fits its own variant's alternative and no
other — for any number of variants with distinct serialized names, unit and data-carrying mixed -/
theorem external_enum_validates (leaf : Sch → JV → Bool) (f : Nat) : ∀ (vs : List ExtVariant), (vs.map (·.tag)).Nodup →
    ∀ v ∈ vs, ∀ cj, (v.unit = false → validates leaf (f + 2) v.content cj = true) →
    validates leaf (f + 4) (.oneOf (vs.map (·.schema))) (v.value cj) = true := by
  intro vs hnd v hv cj hc
  -- `v`'s own alternative accepts, the alternatives before and after it are filtered out
  have other : ∀ l : List ExtVariant, (∀ u ∈ l, v.tag ≠ u.tag) →
      (l.map (·.schema)).filter (fun s => validates leaf (f + 3) s (v.value cj)) = [] := by
    intro l hl
    rw [List.filter_eq_nil_iff]
    intro s hs
    obtain ⟨u, hu, rfl⟩ := List.mem_map.mp hs
    rw [ext_other leaf (f + 2) v u cj (hl u hu)]
    exact Bool.false_ne_true
  obtain ⟨l₁, l₂, rfl⟩ := List.append_of_mem hv
  rw [List.map_append, List.nodup_append, List.map_cons, List.nodup_cons] at hnd
  obtain ⟨-, ⟨h₂, -⟩, h₁⟩ := hnd
  have e₁ := other l₁ fun u hu => (h₁ _ (List.mem_map_of_mem hu) _ (List.mem_cons_self ..)).symm
  have e₂ := other l₂ fun u hu e => h₂ (e ▸ List.mem_map_of_mem hu)
  simp [validates, e₁, e₂, ext_own leaf f v cj hc]

private def f1 : Field := { ident := ['u','s','e','r','_','n','a','m','e'], ty := "String", inner := "String" }
private def f2 : Field := { ident := ['r','#','t','y','p','e'], option := true, ty := "Option<u8>", inner := "u8" }
private def f3 : Field := { ident := ['x'], rename := some ['X','-','1'], dflt := true, ty := "u8", inner := "u8" }
private def f4 : Field := { ident := ['h','i','d'], skip := true, ty := "u8", inner := "u8" }

example : Macro.schemaOfFields (some .kebab) false (.named [f1, f2, f3, f4]) =
    some (.obj [(['u','s','e','r','-','n','a','m','e'], true, .ty "String"), (['t','y','p','e'], false, .ty "u8"), (['X','-','1'], false, .ty "u8")] []) := by rfl
example : Serde.keys (some .kebab) false [f1, f2, f3, f4] = some [(['u','s','e','r','-','n','a','m','e'], true), (['t','y','p','e'], false), (['X','-','1'], false)] := by decide
example : Macro.applyVariant .snake ['H','T','T','P','S','e','r','v','e','r'] = some ['h','_','t','_','t','_','p','_','s','e','r','v','e','r'] := by decide
example : Macro.applyField .camel ['_','_'] = none ∧ Serde.applyField .camel ['_','_'] = none := by decide
private def f2s : Field := { ident := ['n','i','c','k'], option := true, skipIf := true, ty := "Option<u8>", inner := "u8" }
private def fvs1 : List (Field × FieldVal) := [(f1, .val (.leaf 0)), (f2s, .omitted), (f3, .val (.leaf 1)), (f4, .val .null)]
-- for a four-field struct with an omitted Option and a skipped field: what `ser` writes (hypothesis `hs` of struct_value_validates), that its
-- values are admissible (`hadm`), and that `validatesObj` computes to true on its properties
example : Serde.ser (some .kebab) fvs1 = some [(['u','s','e','r','-','n','a','m','e'], .leaf 0), (['X','-','1'], .leaf 1)] := by rfl
example : (∀ p ∈ fvs1, Serde.written p.1 = true → Serde.admissible (fun _ _ => true) p.1 p.2 = true) := by
  intro p hp; simp [fvs1] at hp; rcases hp with rfl | rfl | rfl | rfl <;> simp [Serde.admissible, Serde.written, f1, f2s, f3, f4]
example : validatesObj (propOK (fun _ _ => true) (some .kebab) fvs1)
    [(['u','s','e','r','-','n','a','m','e'], true), (['n','i','c','k'], false), (['X','-','1'], false)]
    [(['u','s','e','r','-','n','a','m','e'], .leaf 0), (['X','-','1'], .leaf 1)] = true := by decide

end Ohkami.Derive.C16
