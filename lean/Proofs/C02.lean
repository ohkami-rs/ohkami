import OhkamiModel.HttpProofs
import OhkamiModel.HeaderJoin
import OhkamiModel.M.HttpObs
import OhkamiModel.GenConsts
/-! # C02 — property theorems about the model of `Request::read` (OhkamiModel/Http.lean) -/
namespace C02
open Ohkami Ohkami.Http Ohkami.P

/-- **Faithfulness.** Every well-formed request (`WF`: a known method, an origin-form UTF-8 target, header lines
`name ": " value CRLF` with UTF-8 names/values free of `:` resp. CR, a body announced by Content-Length iff non-empty)
whose bytes are the first read is accepted, and what is handed on is exactly what the bytes denote (`view`): method,
normalised path, raw query, standard headers grouped case-insensitively with repeated values joined by ", " in order,
custom headers likewise, payload. -/
theorem parse_encode (r : Req) (mname : String) (h : WF r mname) (more : Bytes) :
    parse (encode r) more = .ok (view r mname) :=
  Ohkami.Http.parse_encode r mname h more

def Outcome.isPanic {α} : Outcome α → Bool
  | .panic _ => true
  | _ => false

theorem headers_never_panics : ∀ (fuel : Nat) (bs : Bytes) (std : List (Nat × Bytes)) (cus : List (Bytes × Bytes)),
    Outcome.isPanic (headers fuel bs std cus) = false := by
  intro fuel bs std cus
  -- a turn of the loop ends in `ok` or `reject`, or goes on with the next line
  fun_induction headers fuel bs std cus
  case case6 ih | case7 ih => exact ih
  all_goals rfl

theorem body_never_panics (method : String) (np : Bytes) (q : Option Bytes) (std : List (Nat × Bytes)) (cus : List (Bytes × Bytes)) (stream : Bytes) :
    Outcome.isPanic (body method np q std cus stream) = false := by
  fun_cases body method np q std cus stream
  all_goals rfl

theorem finish_never_panics (method : String) (np : Bytes) (q : Option Bytes) (r6 more : Bytes) :
    Outcome.isPanic (finish method np q r6 more) = false := by
  rw [finish_eq]
  have h := headers_never_panics (r6.length + 1) r6 [] []
  split
  · exact body_never_panics ..
  · rfl
  · rfl
  · rename_i hs; rw [hs] at h; exact h

/-- **Totality.** Whatever bytes arrive as the first read (and whatever the stream still holds), the parser answers
`ok`, an error status, or by closing — it has no panicking outcome. -/
theorem parse_never_panics (first more : Bytes) : Outcome.isPanic (parse first more) = false := by
  rw [parse_eq]
  split
  · exact finish_never_panics ..
  · rfl
  · rfl

theorem finish_method (method : String) (np : Bytes) (q : Option Bytes) (r6 more : Bytes) (p : Parsed)
    (hf : finish method np q r6 more = .ok p) : p.method = method := by
  obtain ⟨_, _, _, _, h, _⟩ := finish_sound hf
  exact h

/-- **Soundness.**  Whatever first read the parser accepts has the shape of a request —
`method SP path [? query] SP HTTP/1.1 CRLF (name ": " value CRLF)* CRLF remaining` with a known method, an origin-form UTF-8 path —
and the request object is exactly what that shape denotes: the method, the path (one trailing `/` stripped), the query, the header
lines folded in order into the two maps, and as payload the first Content-Length bytes of what follows the head. -/
theorem parse_sound (first more : Bytes) (p : Parsed) (h : parse first more = .ok p) :
    ∃ (m path : Bytes) (query : Option Bytes) (hs : List (Bytes × Bytes)) (remaining : Bytes),
      first = m ++ SP :: (path ++ queryBytes query ++ SP :: (HTTP11 ++ (encodeHeaders hs ++ [CR, LF] ++ remaining))) ∧
      methodOf m = some p.method ∧ (∀ b ∈ m, b ≠ SP) ∧
      path.head? = some SLASH ∧ (∀ b ∈ path, b ≠ SP ∧ b ≠ QM) ∧ validUtf8 path = true ∧
      p.path = (if path.getLast? == some SLASH then path.dropLast else path) ∧
      p.query = query ∧ (∀ q, query = some q → ∀ b ∈ q, b ≠ SP) ∧
      (∀ kv ∈ hs, LineOK kv) ∧ (p.std, p.custom) = foldHeaders hs ∧ PayloadOK p.std remaining more p.payload := by
  obtain ⟨method, np, q, r6, ⟨m, path, rfl, hm, hmsp, hsl, hpc, hu, rfl, hq⟩, hfin⟩ := parse_ok_stages h
  obtain ⟨hs, remaining, rfl, hl, e1, e2, e3, e4, e5⟩ := finish_sound hfin
  exact ⟨m, path, q, hs, remaining, rfl, e1 ▸ hm, hmsp, hsl, hpc, hu, e2, e3, hq, hl, e4, e5⟩

/-- **The byte set of a header name in the source is the `tchar` of RFC 9110 5.6.2** (`"!" / "#" / "$" / "%" / "&" / "'" / "*" / "+" / "-" / "." /
"^" / "_" / "`" / "|" / "~" / DIGIT / ALPHA`): the model's `isTchar` is evaluated from the table the translator regenerates from
`Request::read` on every run, so a change of that set in the code changes this statement -/
theorem tchar_is_rfc9110 : ∀ n : Fin 256, Ohkami.Http.isTchar (UInt8.ofNat n.val) =
    (([33, 35, 36, 37, 38, 39, 42, 43, 45, 46, 94, 95, 96, 124, 126] : List Nat).contains n.val      -- ! # $ % & ' * + - . ^ _ ` | ~
      || (48 ≤ n.val && n.val ≤ 57) || (65 ≤ n.val && n.val ≤ 90) || (97 ≤ n.val && n.val ≤ 122)) := by                 -- DIGIT / ALPHA
  decide +kernel

/-- **The byte set of a header value in the source is that of RFC 9110 5.5** (`field-vchar = VCHAR / obs-text`, with SP and HTAB inside): no NUL, no bare LF,
no other control byte, no DEL — a request holding one in a header value is refused (400).  Evaluated from the table the translator regenerates from
`Request::read` on every run (a source without the check yields the full range and this statement fails). -/
theorem vchar_is_rfc9110 : ∀ n : Fin 256, Ohkami.Http.isVbyte (UInt8.ofNat n.val) =
    (n.val == 9 || (32 ≤ n.val && n.val ≤ 126) || 128 ≤ n.val) := by
  decide +kernel

/-- a value with a control byte is never handed on: whatever the request, an accepted one has only bytes of the value set (no control byte but HTAB) in its header values -/
theorem accepted_values_clean (first more : Bytes) (p : Parsed) (h : parse first more = .ok p) :
    ∃ hs : List (Bytes × Bytes), (p.std, p.custom) = foldHeaders hs ∧ ∀ kv ∈ hs, isValue kv.2 = true := by
  obtain ⟨_, _, _, hs, _, _, _, _, _, _, _, _, _, _, hl, hfold, _⟩ := parse_sound first more p h
  exact ⟨hs, hfold, fun kv hkv => (hl kv hkv).2.2.2.2.2.2⟩

/-- **The announced length is judged before anything is loaded** (`0 => no payload`, `PAYLOAD_LIMIT.. => 413`, otherwise the body is read): the order of
`finish` in the model is the order of `Request::read` in the source, as the translator reads it on every run — so whether a length is refused does not depend on
where the body bytes happen to be (the first read or later ones) -/
theorem source_limits_before_loading : Ohkami.Gen.limitCheckedBeforeLoading = true := by decide

/-- **Repeated headers are joined in order; names compare in any letter case** (names outside the table).  With `hs` the header lines of
the wire (`parse_sound` gives them), what `Headers::get(n)` hands a handler is `v1`, `", " v2`, … over exactly the lines whose name equals `n`
up to letter case, in wire order — and nothing when there is no such line. -/
theorem get_custom_joined (hs : List (Bytes × Bytes)) (p : Parsed) (hp : (p.std, p.custom) = foldHeaders hs)
    (n : Bytes) (hn : stdIndex n = none) : getHeader p n = joinOnto none (valuesOf hs n) := by
  have h : getHeader p n = lookBy sameName p.custom n := by
    unfold getHeader lookBy
    rw [show Gen.reqHeaderLower.findIdx? (fun t => t == n.map lower) = none from hn]
    cases p.custom.find? (sameName ·.1 n) <;> rfl
  rw [h, show p.custom = (foldHeaders hs).2 from congrArg Prod.snd hp]
  exact joinOnto_foldl (fun s => lookBy sameName s.2 n) stepH (sameName ·.1 n) (·.2) (look_stepH n hn) hs ([], [])

/-- the same for the names of the table: the `i`-th typed accessor sees the join of the lines spelt as that name in any letter case -/
theorem get_std_joined (hs : List (Bytes × Bytes)) (p : Parsed) (hp : (p.std, p.custom) = foldHeaders hs) (i : Nat) :
    getStd p i = joinOnto none (stdValuesOf hs i) := by
  unfold getStd
  rw [show p.std = (foldHeaders hs).1 from congrArg Prod.fst hp]
  exact joinOnto_foldl (fun s => lookBy (fun a b => decide (a = b)) s.1 i) stepH (stdIndex ·.1 == some i) (·.2) (lookStd_stepH i) hs ([], [])

/-- the statement at the level of the wire: an accepted request's accessors see the joins of its own header lines -/
theorem accepted_headers_joined (first more : Bytes) (p : Parsed) (h : parse first more = .ok p) :
    ∃ hs : List (Bytes × Bytes), (∃ pre rest, first = pre ++ (encodeHeaders hs ++ [CR, LF] ++ rest)) ∧
      (∀ n, stdIndex n = none → getHeader p n = joinOnto none (valuesOf hs n)) ∧
      (∀ i, getStd p i = joinOnto none (stdValuesOf hs i)) := by
  obtain ⟨m, path, query, hs, remaining, hfirst, _, _, _, _, _, _, _, _, _, hfold, _⟩ := parse_sound first more p h
  refine ⟨hs, ⟨m ++ SP :: (path ++ queryBytes query ++ SP :: HTTP11), remaining, ?_⟩,
    fun n hn => get_custom_joined hs p hfold n hn, fun i => get_std_joined hs p hfold i⟩
  rw [hfirst]; simp

-- not vacuous: `x-foo: 1`, `Other: z`, `X-Foo: 2` read as `X-FOO`
example : joinOnto none (valuesOf [([120, 45, 102, 111, 111], [49]), ([79, 116, 104, 101, 114], [122]), ([88, 45, 70, 111, 111], [50])] [88, 45, 70, 79, 79])
    = some [49, 44, 32, 50] := by decide

end C02
