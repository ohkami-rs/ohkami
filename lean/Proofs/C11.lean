import OhkamiModel.M.Cookie
/-! # C11 — property theorems about the cookie models -/
namespace C11
open Ohkami Ohkami.Cookie

theorem u8_cases (P : UInt8 → Prop) (h : ∀ n : Fin 256, P n.val.toUInt8) (b : UInt8) : P b := by
  have := h ⟨b.toNat, b.toNat_lt⟩
  have e : b.toNat.toUInt8 = b := by cases b; simp [Nat.toUInt8, UInt8.toNat]
  simpa [e] using this

theorem position_none_of_all (p : UInt8 → Bool) : ∀ bs : Bytes, (∀ b ∈ bs, p b = false) → position p bs = none := by
  intro bs
  induction bs with
  | nil => intro _; rfl
  | cons b bs ih =>
    intro h
    simp only [position, h b (by simp), Bool.false_eq_true, if_false, ih (fun x hx => h x (by simp [hx])), Option.map_none]

theorem position_append (p : UInt8 → Bool) : ∀ (a : Bytes) (c : UInt8) (rest : Bytes), (∀ b ∈ a, p b = false) → p c = true →
    position p (a ++ c :: rest) = some a.length := by
  intro a
  induction a with
  | nil => intro c rest _ hc; simp [position, hc]
  | cons x a ih =>
    intro c rest h hc
    simp only [List.cons_append, position, h x (by simp), Bool.false_eq_true, if_false,
      ih c rest (fun b hb => h b (by simp [hb])) hc, Option.map_some, List.length_cons]

theorem alnum_clean : ∀ x : UInt8, Percent.isAlnum x = true → badValueByte x = false ∧ x ≠ SEMI ∧ x ≠ DQ :=
  u8_cases _ (by decide +kernel)

/-- the percent-encoder's alphabet is harmless for the cookie value syntax: no `;`, no quote, no forbidden byte -/
theorem encoded_value_clean (v : Bytes) : ∀ b ∈ Percent.encode v, badValueByte b = false ∧ b ≠ SEMI ∧ b ≠ DQ :=
  Percent.encode_all alnum_clean (by decide) v

theorem stripQuotes_clean (bs : Bytes) (h : ∀ b ∈ bs, b ≠ DQ) : stripQuotes bs = bs := by
  -- quotes are stripped only if the first byte is one
  cases bs with
  | nil => rfl
  | cons x t => simp [stripQuotes, h x]

theorem nextValue_split (enc rest : Bytes) (h : ∀ b ∈ enc, b ≠ SEMI) (hr : rest = [] ∨ rest.head? = some SEMI) :
    nextValue (enc ++ rest) = (validValue enc, rest) := by
  have hp : ∀ b ∈ enc, (b == SEMI) = false := fun b hb => by simpa using h b hb
  unfold nextValue
  rcases hr with rfl | hh
  · rw [List.append_nil, position_none_of_all _ _ hp]
  · cases rest with
    | nil => simp at hh
    | cons c t =>
      obtain rfl : c = SEMI := by simpa using hh
      rw [position_append _ _ SEMI t hp (by decide)]
      simp only [List.take_left', List.drop_left']

theorem validValue_clean (enc v : Bytes) (hclean : ∀ b ∈ enc, badValueByte b = false ∧ b ≠ SEMI ∧ b ≠ DQ)
    (hdec : Percent.decode enc = v) (hv : Http.validUtf8 v = true) : validValue enc = some (v, v == enc) := by
  have hany : enc.any badValueByte = false := by
    rw [List.any_eq_false]; intro b hb; simp [(hclean b hb).1]
  unfold validValue
  simp only [stripQuotes_clean enc fun b hb => (hclean b hb).2.2, hany, Bool.false_eq_true, if_false, hdec, hv, if_true]

theorem nextValue_clean (enc v rest : Bytes) (hclean : ∀ b ∈ enc, badValueByte b = false ∧ b ≠ SEMI ∧ b ≠ DQ)
    (hdec : Percent.decode enc = v) (hv : Http.validUtf8 v = true) (hr : rest = [] ∨ rest.head? = some SEMI) :
    nextValue (enc ++ rest) = (some (v, v == enc), rest) := by
  rw [nextValue_split _ _ (fun b hb => (hclean b hb).2.1) hr, validValue_clean _ v hclean hdec hv]

/-- **A percent-encoded value survives the trip**: for every text value `v` (arbitrary Unicode), a cookie written as
`Percent.encode v` — alone at the end of the header or followed by `; more` — is read back as exactly `v`, and the rest
of the header is left for the next cookie. -/
theorem value_roundtrip_pct (v rest : Bytes) (hv : Http.validUtf8 v = true) (hr : rest = [] ∨ rest.head? = some SEMI) :
    ∃ borrowed, nextValue (Percent.encode v ++ rest) = (some (v, borrowed), rest) :=
  ⟨_, nextValue_clean _ v rest (encoded_value_clean v) (Percent.decode_encode v) hv hr⟩

theorem name_roundtrip (name rest : Bytes) (hne : name ≠ []) (hn : ∀ b ∈ name, badNameByte b = false) :
    nextName (name ++ EQ :: rest) = some (name, EQ :: rest) := by
  have hp : ∀ b ∈ name, (b == EQ || b == SEMI) = false := by
    intro b hb
    cases h : (b == EQ || b == SEMI) with
    | false => rfl
    | true =>
      -- `=` and `;` are on the list of bytes a name must not contain
      have : b = EQ ∨ b = SEMI := by simpa using h
      rcases this with rfl | rfl <;> exact absurd (hn _ hb) (by decide)
  unfold nextName
  rw [position_append _ name EQ rest hp (by decide)]
  cases hl : name.length with
  | zero => exact absurd (List.eq_nil_of_length_eq_zero hl) hne
  | succ n =>
    have hany : (name.any badNameByte) = false := by rw [List.any_eq_false]; intro b hb; simp [hn b hb]
    have hget : (name ++ EQ :: rest)[n + 1]? = some EQ := by rw [← hl]; simp
    have htake : (name ++ EQ :: rest).take (n + 1) = name := by rw [← hl]; simp
    have hdrop : (name ++ EQ :: rest).drop (n + 1) = EQ :: rest := by rw [← hl]; simp
    simp only [htake, hany, Bool.false_eq_true, if_false, hget, beq_self_eq_true, if_true, hdrop]

/-- **The built `Set-Cookie` line starts with the cookie pair** `name=percent-encoded value`, whose value part contains
only RFC 6265 cookie-octets (alphanumerics and `%XX`), whatever the value text -/
theorem setcookie_pair (c : SetCookie.Cookie) :
    ∃ tail, SetCookie.build c = c.name ++ [61] ++ Percent.encode c.value ++ tail ∧
      ∀ b ∈ Percent.encode c.value, badValueByte b = false ∧ b ≠ SEMI ∧ b ≠ DQ := by
  refine ⟨SetCookie.opt SetCookie.sExpires c.expires ++ SetCookie.opt SetCookie.sMaxAge (c.maxAge.map Response.dec)
    ++ SetCookie.opt SetCookie.sDomain c.domain ++ SetCookie.opt SetCookie.sPath c.path
    ++ (if c.secure then SetCookie.sSecure else []) ++ (if c.httpOnly then SetCookie.sHttpOnly else [])
    ++ SetCookie.opt SetCookie.sSameSite (c.sameSite.map SetCookie.SameSite.bytes), ?_, encoded_value_clean c.value⟩
  unfold SetCookie.build
  simp only [List.append_assoc]

end C11
namespace Ohkami.Cookie
open Ohkami Ohkami.Serde Ohkami.Serde.Concrete C11

theorem value_roundtrip_raw (enc v rest : Bytes) (hclean : ∀ b ∈ enc, badValueByte b = false ∧ b ≠ SEMI ∧ b ≠ DQ)
    (hdec : Percent.decode enc = v) (hv : Http.validUtf8 v = true) (hr : rest = [] ∨ rest.head? = some SEMI) :
    ∃ borrowed, nextValue (enc ++ rest) = (some (v, borrowed), rest) :=
  ⟨_, nextValue_clean enc v rest hclean hdec hv hr⟩

theorem digit_clean (b : UInt8) (h : IsDigit b) : badValueByte b = false ∧ b ≠ SEMI ∧ b ≠ DQ :=
  alnum_clean b (by simp [Percent.isAlnum, h.1])

theorem show_clean (z : Int) : showInt z ≠ [] ∧ ∀ b ∈ showInt z, badValueByte b = false ∧ b ≠ SEMI ∧ b ≠ DQ :=
  ⟨(showInt_bytes z).1, showInt_all (by decide) digit_clean z⟩

/-! The jar holds values of the field types a cookie struct may declare, each written by the client in the text form of its type (`Enc`):
text percent-encoded, integers in decimal, booleans as `true` / `false`, an `Option` as the text of what it holds. -/

/-- the text a client sends for a value of a field type -/
inductive Enc : Ty → Value → Bytes → Prop
  | string (v : Bytes) : Http.validUtf8 v = true → Enc .string (.str v) (Percent.encode v)
  | uint (bits : Nat) (z : Int) : 0 ≤ z → z < 2 ^ bits → Enc (.uint bits) (.int z) (showInt z)
  | sint (bits : Nat) (z : Int) : -(2 ^ (bits - 1) : Int) ≤ z → z < 2 ^ (bits - 1) → Enc (.sint bits) (.int z) (showInt z)
  | btrue : Enc .bool (.bool true) Serde.TRUE
  | bfalse : Enc .bool (.bool false) Serde.FALSE
  | some (t : Ty) (v : Value) (enc : Bytes) : Enc t v enc → enc ≠ [] → Enc (.option t) (.some v) enc

def optDepth : Ty → Nat
  | .option t => optDepth t + 1
  | _ => 0

theorem head_ne_semi {enc : Bytes} (h : ∀ b ∈ enc, badValueByte b = false ∧ b ≠ SEMI ∧ b ≠ DQ) : enc.head? ≠ some SEMI := by
  cases enc with
  | nil => simp
  | cons b t => simpa using (h b (List.mem_cons_self ..)).2.1

theorem enc_clean {ty : Ty} {v : Value} {enc : Bytes} (h : Enc ty v enc) : ∀ b ∈ enc, badValueByte b = false ∧ b ≠ SEMI ∧ b ≠ DQ := by
  induction h with
  | string v _ => exact encoded_value_clean v
  | uint bits z _ _ | sint bits z _ _ => exact (show_clean z).2
  | btrue | bfalse => decide
  | some t v enc _ _ ih => exact ih

theorem enc_head_not_semi {ty : Ty} {v : Value} {enc : Bytes} (h : Enc ty v enc) : enc.head? ≠ some SEMI :=
  head_ne_semi (enc_clean h)

/-- **One typed value survives the trip**: the text of a value of a field type, alone at the end of the header or followed by `; more`, is
read by the field's decoder as exactly that value, and the rest of the header is left for the next cookie -/
theorem field_roundtrip {ty : Ty} {v : Value} {enc : Bytes} (h : Enc ty v enc) :
    ∀ (fuel : Nat) (rest : Bytes), optDepth ty < fuel → (rest = [] ∨ rest.head? = some SEMI) →
      fieldValue fuel ty (enc ++ rest) = .ok (v, rest) := by
  intro fuel rest hf hr
  obtain ⟨f, rfl⟩ : ∃ f, fuel = f + 1 := ⟨fuel - 1, by omega⟩
  induction h generalizing f with
  | string v hv =>
    simp only [fieldValue, nextValue_clean _ v rest (encoded_value_clean v) (Percent.decode_encode v) hv hr]
  | uint bits z h0 h1 =>
    simp only [fieldValue, nextValue_clean _ _ rest (show_clean z).2 (show_noPct z) (show_utf8 z) hr, parse_show_U bits z h0 h1]
  | sint bits z h0 h1 =>
    simp only [fieldValue, nextValue_clean _ _ rest (show_clean z).2 (show_noPct z) (show_utf8 z) hr, parse_show_S bits z h0 h1]
  | btrue =>
    simp only [fieldValue, nextValue_clean Serde.TRUE _ rest (enc_clean .btrue) (decode_noPct _ (by decide)) (by decide) hr, if_true]
  | bfalse =>
    have hne : Serde.FALSE ≠ Serde.TRUE := by decide
    simp only [fieldValue, nextValue_clean Serde.FALSE _ rest (enc_clean .bfalse) (decode_noPct _ (by decide)) (by decide) hr, hne,
      if_false, if_true]
  | some t v enc he hne ih =>
    obtain ⟨f', rfl⟩ : ∃ f', f = f' + 1 := ⟨f - 1, by simp only [optDepth] at hf; omega⟩
    have hnone : isNone (enc ++ rest) = false := by
      cases enc with
      | nil => exact absurd rfl hne
      | cons b tl => simpa [isNone] using enc_head_not_semi he
    rw [fieldValue]
    simp only [hnone, Bool.false_eq_true, if_false, ih f' (by simp only [optDepth] at hf; omega)]

/-- a typed jar: name, declared type, value, and the text the client sends for it -/
abbrev TJar := List (Bytes × Ty × Value × Bytes)

def tailEncT : TJar → Bytes
  | [] => []
  | (n, _, _, enc) :: rest => [SEMI, SP] ++ (n ++ EQ :: (enc ++ tailEncT rest))

def encodeJarT : TJar → Bytes
  | [] => []
  | (n, _, _, enc) :: rest => n ++ EQ :: (enc ++ tailEncT rest)

theorem tailEncT_head (jar : TJar) : tailEncT jar = [] ∨ (tailEncT jar).head? = some SEMI := by
  cases jar with
  | nil => left; rfl
  | cons p rest => obtain ⟨n, t, v, e⟩ := p; right; rfl

def asFieldT (c : Bytes × Ty × Value × Bytes) : Bytes × Value := (c.1, c.2.2.1)

structure TJarOK (fields : List (Bytes × Ty × Bool)) (jar : TJar) : Prop where
  names_token : ∀ c ∈ jar, c.1 ≠ [] ∧ ∀ b ∈ c.1, badNameByte b = false
  encoded : ∀ c ∈ jar, Enc c.2.1 c.2.2.1 c.2.2.2 ∧ optDepth c.2.1 < 8
  declared : ∀ c ∈ jar, lookupField fields c.1 = some c.2.1
  distinct : (jar.map (·.1)).Nodup

theorem pairs_stepT (fields : List (Bytes × Ty × Bool)) (fuel : Nat) (n : Bytes) (ty : Ty) (v : Value) (enc : Bytes) (rest : TJar)
    (seen : List (Bytes × Value)) (hn : n ≠ [] ∧ ∀ b ∈ n, badNameByte b = false) (he : Enc ty v enc) (hdp : optDepth ty < 8)
    (hd : lookupField fields n = some ty) (hs : seen.find? (·.1 = n) = none) (first : Bool) :
    pairs fields (fuel + 1) first ((if first then [] else [SEMI, SP]) ++ (n ++ EQ :: (enc ++ tailEncT rest))) seen =
      pairs fields fuel false (tailEncT rest) (seen ++ [(n, v)]) := by
  have hname := name_roundtrip n (enc ++ tailEncT rest) hn.1 hn.2
  have hfv : fieldValue 8 ty (enc ++ tailEncT rest) = .ok (v, tailEncT rest) := field_roundtrip he 8 _ hdp (tailEncT_head rest)
  conv => lhs; unfold pairs
  cases first with
  | true =>
    simp only [if_true, List.nil_append]
    have hne : (n ++ EQ :: (enc ++ tailEncT rest)).isEmpty = false := by cases n <;> rfl
    simp only [hne, Bool.false_eq_true, if_false, hname, bne_self_eq_false, hd, hs, Option.isSome_none, hfv]
  | false =>
    simp only [Bool.false_eq_true, if_false, List.cons_append, List.nil_append, List.isEmpty_cons, beq_self_eq_true, Bool.and_self, if_true,
      hname, bne_self_eq_false, hd, hs, Option.isSome_none, hfv]

theorem TJarOK.tail {fields : List (Bytes × Ty × Bool)} {c : Bytes × Ty × Value × Bytes} {rest : TJar} (hok : TJarOK fields (c :: rest)) :
    TJarOK fields rest ∧ c.1 ∉ rest.map (·.1) := by
  have hnd := hok.distinct
  simp only [List.map_cons, List.nodup_cons] at hnd
  exact ⟨⟨fun x hx => hok.names_token x (List.mem_cons_of_mem _ hx), fun x hx => hok.encoded x (List.mem_cons_of_mem _ hx),
    fun x hx => hok.declared x (List.mem_cons_of_mem _ hx), hnd.2⟩, hnd.1⟩

theorem find_none_append (seen : List (Bytes × Value)) (n m : Bytes) (v : Value) (h : seen.find? (·.1 = m) = none) (hne : n ≠ m) :
    (seen ++ [(n, v)]).find? (·.1 = m) = none := by
  rw [List.find?_append, h]
  simp [hne]

theorem length_le_tailEncT : ∀ jar : TJar, jar.length ≤ (tailEncT jar).length := by
  intro jar
  induction jar with
  | nil => simp
  | cons c rest ih => obtain ⟨n, ty, v, enc⟩ := c; simp only [tailEncT, List.length_append, List.length_cons]; omega

theorem pairs_jarT (fields : List (Bytes × Ty × Bool)) : ∀ (jar : TJar) (seen : List (Bytes × Value)) (fuel : Nat) (first : Bool),
    TJarOK fields jar → (∀ c ∈ jar, seen.find? (·.1 = c.1) = none) → jar.length < fuel →
    pairs fields fuel first (if first then encodeJarT jar else tailEncT jar) seen = .ok (seen ++ jar.map asFieldT) := by
  intro jar
  induction jar with
  | nil =>
    intro seen fuel first _ _ hf
    obtain ⟨f, rfl⟩ : ∃ f, fuel = f + 1 := ⟨fuel - 1, by omega⟩
    cases first <;> simp [pairs, tailEncT, encodeJarT]
  | cons c rest ih =>
    intro seen fuel first hok hseen hf
    obtain ⟨n, ty, v, enc⟩ := c
    obtain ⟨f, rfl⟩ : ∃ f, fuel = f + 1 := ⟨fuel - 1, by omega⟩
    have hc : (n, ty, v, enc) ∈ (n, ty, v, enc) :: rest := List.mem_cons_self ..
    have e : (if first then encodeJarT ((n, ty, v, enc) :: rest) else tailEncT ((n, ty, v, enc) :: rest)) =
        (if first then [] else [SEMI, SP]) ++ (n ++ EQ :: (enc ++ tailEncT rest)) := by cases first <;> rfl
    rw [e, pairs_stepT fields f n ty v enc rest seen (hok.names_token _ hc) (hok.encoded _ hc).1 (hok.encoded _ hc).2 (hok.declared _ hc) (hseen _ hc) first]
    obtain ⟨hok', hnot⟩ := hok.tail
    have hseen' : ∀ c ∈ rest, (seen ++ [(n, v)]).find? (·.1 = c.1) = none := fun c hc' =>
      find_none_append _ _ _ _ (hseen c (List.mem_cons_of_mem _ hc')) fun heq => hnot (by rw [heq]; exact List.mem_map.mpr ⟨c, hc', rfl⟩)
    have := ih (seen ++ [(n, v)]) f false hok' hseen' (by simp at hf; omega)
    simpa [asFieldT] using this

theorem pairs_tailT (fields : List (Bytes × Ty × Bool)) : ∀ (jar : TJar) (seen : List (Bytes × Value)) (fuel : Nat),
    TJarOK fields jar → (∀ c ∈ jar, seen.find? (·.1 = c.1) = none) → jar.length < fuel →
    pairs fields fuel false (tailEncT jar) seen = .ok (seen ++ jar.map asFieldT) :=
  fun jar seen fuel => pairs_jarT fields jar seen fuel false

/-- **The whole typed jar survives the trip.**  For every jar of cookies with distinct token names, each declared with a field type (text,
unsigned / signed integers of any width, bool, `Option` of those to any depth the decoder follows) and holding a value of that type written
in the type's text form, the header a client sends is read by the struct decoder's pair loop into exactly those values, in order. -/
theorem typed_jar_roundtrip (fields : List (Bytes × Ty × Bool)) (jar : TJar) (hok : TJarOK fields jar) :
    pairs fields ((encodeJarT jar).length + 2) true (encodeJarT jar) [] = .ok (jar.map asFieldT) := by
  have hlen : jar.length < (encodeJarT jar).length + 2 := by
    cases jar with
    | nil => simp
    | cons c rest =>
      obtain ⟨n, ty, v, enc⟩ := c
      have := length_le_tailEncT rest
      simp only [encodeJarT, List.length_append, List.length_cons]; omega
  simpa using pairs_jarT fields jar [] _ true hok (fun _ _ => rfl) hlen

/-- and `serde_cookie::from_str` delivers them in the declared fields -/
theorem fromStr_typed_jar (fields : List (Bytes × Ty × Bool)) (jar : TJar) (hok : TJarOK fields jar) :
    fromStr fields (encodeJarT jar) = (match fillMissing fields (jar.map asFieldT) with | some fs => .ok fs | none => .err) := by
  unfold fromStr
  rw [typed_jar_roundtrip fields jar hok]
  cases h : fillMissing fields (jar.map asFieldT) <;> simp [h]

-- non-vacuity: struct { n: u8, ok: bool, tag: Option<String>, d: i16 } with n=7, ok=true, tag=Some("a;"), d=-3
private def fldsT : List (Bytes × Ty × Bool) := [([110], .uint 8, false), ([111, 107], .bool, false), ([116, 97, 103], .option .string, false), ([100], .sint 16, false)]
private def jarT : TJar := [([110], .uint 8, .int 7, [55]), ([116, 97, 103], .option .string, .some (.str [97, 59]), [97, 37, 51, 66]),
  ([111, 107], .bool, .bool true, Serde.TRUE), ([100], .sint 16, .int (-3), [45, 51])]
example : TJarOK fldsT jarT := by
  refine ⟨?_, ?_, ?_, by decide⟩
  · intro c h; simp [jarT] at h; rcases h with rfl | rfl | rfl | rfl <;> decide
  · intro c h; simp [jarT] at h
    rcases h with rfl | rfl | rfl | rfl
    · exact ⟨Enc.uint 8 7 (by decide) (by decide), by decide⟩
    · exact ⟨Enc.some _ _ _ (Enc.string [97, 59] (by decide)) (by decide), by decide⟩
    · exact ⟨Enc.btrue, by decide⟩
    · exact ⟨Enc.sint 16 (-3) (by decide) (by decide), by decide⟩
  · intro c h; simp [jarT] at h; rcases h with rfl | rfl | rfl | rfl <;> rfl

/-! The jar whose cookies are all `String` fields: a typed jar (`asTyped`), so every statement here is the typed one read through that map. -/

/-- the `Cookie` header a client sends for a jar of text cookies (`encodeJar`): `name=percent-encoded value` joined by `; `; `tailEnc` is
what follows the first cookie -/
def tailEnc : List (Bytes × Bytes) → Bytes
  | [] => []
  | (n, v) :: rest => [SEMI, SP] ++ (n ++ EQ :: (Percent.encode v ++ tailEnc rest))

def encodeJar : List (Bytes × Bytes) → Bytes
  | [] => []
  | (n, v) :: rest => n ++ EQ :: (Percent.encode v ++ tailEnc rest)

/-- a cookie of the jar as the struct decoder must deliver it -/
def asField (nv : Bytes × Bytes) : Bytes × Value := (nv.1, .str nv.2)

structure JarOK (fields : List (Bytes × Ty × Bool)) (jar : List (Bytes × Bytes)) : Prop where
  names_token : ∀ nv ∈ jar, nv.1 ≠ [] ∧ ∀ b ∈ nv.1, badNameByte b = false
  values_utf8 : ∀ nv ∈ jar, Http.validUtf8 nv.2 = true
  declared : ∀ nv ∈ jar, lookupField fields nv.1 = some .string
  distinct : (jar.map (·.1)).Nodup

-- non-vacuity: a two-cookie jar over a struct { sid: String, lang: String }
private def flds : List (Bytes × Ty × Bool) := [([115, 105, 100], .string, false), ([108, 97, 110, 103], .string, false)]
private def jar2 : List (Bytes × Bytes) := [([108, 97, 110, 103], [0xE6, 0x97, 0xA5]), ([115, 105, 100], [97, 32, 59])]
example : JarOK flds jar2 := ⟨by intro nv h; simp [jar2] at h; rcases h with rfl | rfl <;> decide, by intro nv h; simp [jar2] at h; rcases h with rfl | rfl <;> decide,
  by intro nv h; simp [jar2] at h; rcases h with rfl | rfl <;> rfl, by decide⟩

def asTyped (nv : Bytes × Bytes) : Bytes × Ty × Value × Bytes := (nv.1, .string, .str nv.2, Percent.encode nv.2)

theorem tailEnc_eq (jar : List (Bytes × Bytes)) : tailEnc jar = tailEncT (jar.map asTyped) := by
  induction jar with
  | nil => rfl
  | cons nv rest ih => simp only [tailEnc, List.map_cons, tailEncT, asTyped, ih]

theorem encodeJar_eq (jar : List (Bytes × Bytes)) : encodeJar jar = encodeJarT (jar.map asTyped) := by
  cases jar with
  | nil => rfl
  | cons nv rest => simp only [encodeJar, List.map_cons, encodeJarT, asTyped, tailEnc_eq]

theorem asField_eq (jar : List (Bytes × Bytes)) : jar.map asField = (jar.map asTyped).map asFieldT := by
  rw [List.map_map]; rfl

theorem JarOK.typed {fields : List (Bytes × Ty × Bool)} {jar : List (Bytes × Bytes)} (h : JarOK fields jar) : TJarOK fields (jar.map asTyped) where
  names_token := List.forall_mem_map.mpr h.names_token
  encoded := List.forall_mem_map.mpr fun nv hnv => ⟨Enc.string nv.2 (h.values_utf8 nv hnv), Nat.zero_lt_succ 7⟩
  declared := List.forall_mem_map.mpr h.declared
  distinct := by rw [List.map_map]; exact h.distinct

theorem tailEnc_head (jar : List (Bytes × Bytes)) : tailEnc jar = [] ∨ (tailEnc jar).head? = some SEMI := by
  rw [tailEnc_eq]; exact tailEncT_head _

theorem pairs_step (fields : List (Bytes × Ty × Bool)) (fuel : Nat) (n v : Bytes) (rest : List (Bytes × Bytes)) (seen : List (Bytes × Value))
    (hn : n ≠ [] ∧ ∀ b ∈ n, badNameByte b = false) (hv : Http.validUtf8 v = true) (hd : lookupField fields n = some .string)
    (hs : seen.find? (·.1 = n) = none) (first : Bool) :
    pairs fields (fuel + 1) first ((if first then [] else [SEMI, SP]) ++ (n ++ EQ :: (Percent.encode v ++ tailEnc rest))) seen =
      pairs fields fuel false (tailEnc rest) (seen ++ [(n, .str v)]) := by
  rw [tailEnc_eq]
  exact pairs_stepT fields fuel n .string (.str v) _ _ seen hn (Enc.string v hv) (Nat.zero_lt_succ 7) hd hs first

theorem pairs_tail (fields : List (Bytes × Ty × Bool)) : ∀ (jar : List (Bytes × Bytes)) (seen : List (Bytes × Value)) (fuel : Nat),
    JarOK fields jar → (∀ nv ∈ jar, seen.find? (·.1 = nv.1) = none) → jar.length < fuel →
    pairs fields fuel false (tailEnc jar) seen = .ok (seen ++ jar.map asField) := by
  intro jar seen fuel hok hseen hf
  rw [tailEnc_eq, asField_eq]
  exact pairs_tailT fields _ seen fuel hok.typed (List.forall_mem_map.mpr hseen) (by rwa [List.length_map])

/-- **The whole jar survives the trip.**  For every jar of text cookies with distinct token names declared as `String` fields and
arbitrary Unicode values, the header a client sends (`name=percent-encoded value` joined by `; `) is read by the struct decoder's
pair loop into exactly those cookies, in order. -/
theorem jar_roundtrip (fields : List (Bytes × Ty × Bool)) (jar : List (Bytes × Bytes)) (hok : JarOK fields jar) :
    pairs fields ((encodeJar jar).length + 2) true (encodeJar jar) [] = .ok (jar.map asField) := by
  rw [encodeJar_eq, asField_eq]
  exact typed_jar_roundtrip fields _ hok.typed

/-- and `serde_cookie::from_str` delivers those cookies in the declared fields (absent `Option` fields as `None`, absent defaulted ones by
their default, a missing required one as an error) -/
theorem fromStr_jar (fields : List (Bytes × Ty × Bool)) (jar : List (Bytes × Bytes)) (hok : JarOK fields jar) :
    fromStr fields (encodeJar jar) = (match fillMissing fields (jar.map asField) with | some fs => .ok fs | none => .err) := by
  rw [encodeJar_eq, asField_eq]
  exact fromStr_typed_jar fields _ hok.typed

end Ohkami.Cookie
