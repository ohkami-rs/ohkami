import OhkamiModel.M.Multipart
/-! # C10 — property theorems about the multipart model -/
namespace C10
open Ohkami Ohkami.Multipart

/-- `read_until` splits its input: nothing is lost or duplicated -/
theorem readUntil_split (pat : Bytes) : ∀ bs : Bytes, (readUntil pat bs).1 ++ (readUntil pat bs).2 = bs := by
  intro bs
  fun_induction readUntil pat bs with
  | case1 | case2 => rfl
  | case3 b t _ a r h ih => simpa [h] using ih

/-- when the pattern occurs, the rest starts with it -/
theorem readUntil_rest (pat : Bytes) : ∀ bs : Bytes, (readUntil pat bs).2 = [] ∨ pat.isPrefixOf (readUntil pat bs).2 = true := by
  intro bs
  fun_induction readUntil pat bs with
  | case1 => exact .inl rfl
  | case2 b t h => exact .inr h
  | case3 b t _ a r h ih => rwa [h] at ih

/-- **Byte-exact content**: if the pattern `pat` (at the use sites CRLF and the delimiter) starts at no position of `pre ++ pat ++ rest`
before the end of `pre` (the hypothesis a conforming encoder guarantees of a part's content), then the scan stops exactly there: the
part's content is recovered byte for byte — whatever bytes it holds (CR, LF, `--`, NUL, high bytes). -/
theorem readUntil_exact (pat : Bytes) : ∀ (pre rest : Bytes),
    (∀ i, i < pre.length → pat.isPrefixOf ((pre ++ pat ++ rest).drop i) = false) →
    readUntil pat (pre ++ pat ++ rest) = (pre, pat ++ rest) := by
  intro pre
  induction pre with
  | nil =>
    intro rest _
    simp only [List.nil_append]
    cases hp : pat ++ rest with
    | nil => simp [readUntil]
    | cons b t =>
      have : pat.isPrefixOf (b :: t) = true := by rw [← hp]; exact List.isPrefixOf_iff_prefix.mpr (List.prefix_append _ _)
      simp [readUntil, this]
  | cons x pre ih =>
    intro rest h
    have h0 := h 0 (by simp)
    simp only [List.drop_zero, List.cons_append] at h0
    simp only [List.cons_append, readUntil, h0, Bool.false_eq_true, if_false]
    rw [ih rest (fun i hi => by have := h (i + 1) (by simp; omega); simpa using this)]

def NoFileNamed (name : Bytes) (rest : List Part) : Prop := ∀ p ∈ rest, sameFile name p = false

@[simp] theorem sameFile_file (name : Bytes) (f : FileV) : sameFile name (.file name f) = true := by simp [sameFile]
@[simp] theorem sameFile_text (name m t : Bytes) : sameFile name (.text m t) = false := rfl

theorem filter_none {name : Bytes} {rest : List Part} (h : NoFileNamed name rest) :
    rest.reverse.filter (sameFile name) = [] ∧ rest.reverse.filter (fun p => !sameFile name p) = rest.reverse := by
  constructor
  · rw [List.filter_eq_nil_iff]; intro p hp; simp [h p (List.mem_reverse.mp hp)]
  · rw [List.filter_eq_self]; intro p hp; simp [h p (List.mem_reverse.mp hp)]

theorem unselected_empty (mt : Bytes) : unselected ⟨[], mt, []⟩ = true := rfl

/-- the unselected file input (no filename, no content) is "no file": alone under its name it yields no file — `Option<File>` is `None`, `Vec<File>` is empty,
`File` is a shape mismatch -/
theorem empty_file_input (name mt m t : Bytes) (rest : List Part) (hr : NoFileNamed name rest) :
    next (rest ++ [.text m t, .file name ⟨[], mt, []⟩]) = some (name, .files [], rest ++ [.text m t]) ∧ next [.file name ⟨[], mt, []⟩] = some (name, .files [], []) ∧
    decodeField .optFile (.files []) = some .none ∧ decodeField .files (.files []) = some (.seq []) ∧ decodeField .file (.files []) = none := by
  obtain ⟨h1, h2⟩ := filter_none hr
  refine ⟨?_, ?_, rfl, rfl, rfl⟩
  · simp [next, unselected_empty, h1, h2]
  · simp [next, unselected_empty]

/-- ... and among the files of its name it is no file either, wherever it stands (two inputs of one name of which one was left empty, in either order;
before fix 6d7aeee `[unselected, file]` yielded a phantom empty file and `[file, unselected]` made the whole form an error) -/
theorem unselected_among_files (name mt m t : Bytes) (f : FileV) (hf : unselected f = false) (rest : List Part) (hr : NoFileNamed name rest) :
    next (rest ++ [.text m t, .file name ⟨[], mt, []⟩, .file name f]) = some (name, .files [f], rest ++ [.text m t]) ∧
    next (rest ++ [.text m t, .file name f, .file name ⟨[], mt, []⟩]) = some (name, .files [f], rest ++ [.text m t]) ∧
    decodeField .files (.files [f]) = some (.seq [f]) ∧ decodeField .optFile (.files [f]) = some (.some (.file f)) := by
  obtain ⟨h1, h2⟩ := filter_none hr
  refine ⟨?_, ?_, rfl, rfl⟩ <;> simp [next, unselected_empty, hf, h1, h2, fileOf]

/-- **Several files under one name, adjacent or not, in submission order**: two files of one name with another field between them are one group, and
`Vec<File>` receives them in the order they were submitted (before the fix the group ended at the first part of another name and the second file of the
name made the form an error, "duplicate field") -/
theorem files_need_not_be_adjacent (name m t : Bytes) (f g : FileV) (hf : unselected f = false) (hg : unselected g = false) (rest : List Part)
    (hr : NoFileNamed name rest) :
    next (rest ++ [.file name f, .text m t, .file name g]) = some (name, .files [g, f], rest ++ [.text m t]) ∧
    decodeField .files (.files [g, f]) = some (.seq [f, g]) := by
  obtain ⟨h1, h2⟩ := filter_none hr
  refine ⟨?_, rfl⟩
  simp [next, hf, hg, h1, h2, fileOf]

/-- a shape mismatch is an error, never a wrong value: two files never fit a single `File` or `Option<File>` field, text never fits a file field, a file never fits a text field -/
theorem shape_mismatch (f g : FileV) (l : List FileV) (t : Bytes) :
    decodeField .file (.files (f :: g :: l)) = none ∧ decodeField .optFile (.files (f :: g :: l)) = none ∧
    decodeField .file (.text t) = none ∧ decodeField .files (.text t) = none ∧ decodeField .text (.files (f :: l)) = none := by
  refine ⟨rfl, rfl, rfl, rfl, rfl⟩

end C10

namespace Ohkami.Multipart
open Ohkami

theorem readWhile_stop (p : UInt8 → Bool) : ∀ (a : Bytes) (c : UInt8) (rest : Bytes), (∀ b ∈ a, p b = true) → p c = false →
    readWhile p (a ++ c :: rest) = (a, c :: rest) := by
  intro a
  induction a with
  | nil => intro c rest _ hc; simp [readWhile, hc]
  | cons x a ih =>
    intro c rest h hc
    have hx : p x = true := h x (by simp)
    simp [readWhile, hx, ih c rest (fun b hb => h b (by simp [hb])) hc]

theorem consume_app (tok rest : Bytes) : consume tok (tok ++ rest) = some rest := by simp [consume]

theorem readQuoted_ok (inner rest : Bytes) (h : ∀ b ∈ inner, b ≠ DQ) : readQuoted (DQ :: (inner ++ DQ :: rest)) = some (inner, rest) := by
  have := readWhile_stop (· != DQ) inner DQ rest (by intro b hb; simpa using h b hb) (by simp)
  simp [readQuoted, this]

theorem readUntil_nocr' : ∀ (a rest : Bytes), (∀ b ∈ a, b ≠ CR) → readUntil CRLF (a ++ (CRLF ++ rest)) = (a, CRLF ++ rest) := by
  intro a rest h
  have := C10.readUntil_exact CRLF a rest fun i hi => by
    rw [List.append_assoc, List.drop_append_of_le_length (Nat.le_of_lt hi), List.drop_eq_getElem_cons hi]
    have hx : a[i] ≠ 13 := h _ (List.getElem_mem hi)
    simp [CRLF, List.isPrefixOf, Ne.symm hx, -List.getElem_cons_drop]
  rwa [List.append_assoc] at this

theorem readUntil_nocr (a rest : Bytes) (h : ∀ b ∈ a, b ≠ CR) : readUntil CRLF (a ++ CRLF ++ rest) = (a, CRLF ++ rest) := by
  rw [List.append_assoc]; exact readUntil_nocr' a rest h

/-- the header lines an RFC 7578 encoder writes for a part (`headerBlock`), from these tokens -/
def CD : Bytes := ascii "Content-Disposition: form-data; name="
def FN : Bytes := ascii "; filename="
def CT : Bytes := ascii "Content-Type: "

def headerBlock : Part → Bytes
  | .text n _ => CD ++ DQ :: (n ++ DQ :: CRLF)
  | .file n f => CD ++ DQ :: (n ++ DQ :: (FN ++ DQ :: (f.filename ++ DQ :: (CRLF ++ (CT ++ (f.mimetype ++ CRLF))))))

def content : Part → Bytes
  | .text _ t => t
  | .file _ f => f.content

/-- what a conforming encoder may put into a part (everything else about names, types and contents is free) -/
structure PartOK (delim : Bytes) (p : Part) : Prop where
  name : ∀ b ∈ (match p with | .text n _ => n | .file n _ => n), b ≠ DQ
  name_utf8 : Http.validUtf8 (match p with | .text n _ => n | .file n _ => n) = true
  file : ∀ n f, p = .file n f → (∀ b ∈ f.filename, b ≠ DQ) ∧ Http.validUtf8 f.filename = true ∧ Http.validUtf8 f.mimetype = true ∧
      (f.mimetype == ascii "multipart/mixed") = false ∧ (∀ b ∈ f.mimetype, b ≠ CR) ∧ f.mimetype ≠ []
  text_utf8 : ∀ n t, p = .text n t → Http.validUtf8 t = true

/-! `headers` reads a part's header block line by line; each lemma below is one line, for any accumulator and any rest, so a layout
of lines is read by rewriting with them in order. -/

theorem consume_head (tok bs : Bytes) (c b : UInt8) (ht : tok.head? = some c) (hb : bs.head? = some b) (hne : b ≠ c) :
    consume tok bs = none := by
  cases tok with
  | nil => cases ht
  | cons c' t =>
    cases bs with
    | nil => cases hb
    | cons b' bs => cases ht; cases hb; simp [consume, List.isPrefixOf, hne.symm]

/-- how `headers` enters a line `name: …`: it is not the blank line, and `readWhile isKebab` takes exactly the name, which is not empty -/
theorem headers_name (h tok r : Bytes) (hne : h ≠ []) (hk : ∀ b ∈ h, isKebab b = true) (ht : tok.head? = some 58) :
    consume CRLF (h ++ (tok ++ r)) = none ∧ readWhile isKebab (h ++ (tok ++ r)) = (h, tok ++ r) ∧ h.isEmpty = false := by
  cases tok with
  | nil => cases ht
  | cons c t =>
    cases ht
    refine ⟨?_, readWhile_stop isKebab h 58 (t ++ r) hk (by decide), by simpa using hne⟩
    cases h with
    | nil => exact absurd rfl hne
    | cons b h' =>
      have hb : b ≠ 13 := fun e => by have := hk b (by simp); rw [e] at this; exact absurd this (by decide)
      exact consume_head _ _ 13 b rfl rfl hb

theorem eqIgnoreCase_self (a : Bytes) : eqIgnoreCase a a = true := by simp [eqIgnoreCase]

-- the closed facts about the header names and tokens that the line lemmas use, each stated once: evaluating `ascii` of a string literal is dear
theorem CD_eq : CD = ascii "Content-Disposition" ++ ascii ": form-data; name=" := by decide +kernel
theorem CT_eq : CT = ascii "Content-Type" ++ ascii ": " := by decide +kernel
theorem FN_eq : FN = ascii "; " ++ ascii "filename=" := by decide +kernel
theorem name_cd : ascii "Content-Disposition" ≠ [] ∧ ∀ b ∈ ascii "Content-Disposition", isKebab b = true := by decide +kernel
theorem name_ct : ascii "Content-Type" ≠ [] ∧ ∀ b ∈ ascii "Content-Type", isKebab b = true := by decide +kernel
theorem cd_ne_ct : eqIgnoreCase (ascii "Content-Disposition") (ascii "Content-Type") = false := by decide +kernel
theorem form_data_colon : (ascii ": form-data; name=").head? = some 58 := by decide +kernel

theorem headers_end (fuel : Nat) (acc : HeaderAcc) (rest : Bytes) : headers (fuel + 1) acc (CRLF ++ rest) = some (acc, rest) := by
  rw [headers, consume_app]

theorem headers_ct (fuel : Nat) (acc : HeaderAcc) (mt rest : Bytes) (hmu : Http.validUtf8 mt = true)
    (hmm : (mt == ascii "multipart/mixed") = false) (hmc : ∀ b ∈ mt, b ≠ CR) :
    headers (fuel + 1) acc (CT ++ (mt ++ (CRLF ++ rest))) = headers fuel { acc with mimetype := mt } rest := by
  obtain ⟨h0, h1, h2⟩ := headers_name _ (ascii ": ") (mt ++ (CRLF ++ rest)) name_ct.1 name_ct.2 (by decide +kernel)
  rw [CT_eq, List.append_assoc, headers, h0, h1]
  simp only [h2, Bool.false_eq_true, if_false, eqIgnoreCase_self, if_true, consume_app, Option.bind_some, readUntil_nocr' mt rest hmc,
    hmu, hmm, Bool.not_true]

theorem headers_cd_text (fuel : Nat) (acc : HeaderAcc) (n rest : Bytes) (hn : ∀ b ∈ n, b ≠ DQ) (hu : Http.validUtf8 n = true) :
    headers (fuel + 1) acc (CD ++ DQ :: (n ++ DQ :: (CRLF ++ rest))) = headers fuel { acc with name := n } rest := by
  obtain ⟨h0, h1, h2⟩ := headers_name _ (ascii ": form-data; name=") (DQ :: (n ++ DQ :: (CRLF ++ rest))) name_cd.1 name_cd.2 form_data_colon
  have h3 : consume (ascii "; ") (CRLF ++ rest) = none := consume_head _ _ 59 13 (by decide +kernel) rfl (by decide)
  rw [CD_eq, List.append_assoc, headers, h0, h1]
  simp only [h2, Bool.false_eq_true, if_false, cd_ne_ct, eqIgnoreCase_self, if_true, consume_app, Option.bind_some, readQuoted_ok n _ hn, hu,
    Bool.not_true, h3]

theorem headers_cd_file (fuel : Nat) (acc : HeaderAcc) (n fn rest : Bytes) (hn : ∀ b ∈ n, b ≠ DQ) (hu : Http.validUtf8 n = true)
    (hf : ∀ b ∈ fn, b ≠ DQ) (hfu : Http.validUtf8 fn = true) :
    headers (fuel + 1) acc (CD ++ DQ :: (n ++ DQ :: (FN ++ DQ :: (fn ++ DQ :: (CRLF ++ rest))))) =
      headers fuel { acc with name := n, filename := some fn } rest := by
  obtain ⟨h0, h1, h2⟩ := headers_name _ (ascii ": form-data; name=") (DQ :: (n ++ DQ :: (FN ++ DQ :: (fn ++ DQ :: (CRLF ++ rest)))))
    name_cd.1 name_cd.2 form_data_colon
  rw [CD_eq, List.append_assoc, headers, h0, h1]
  simp only [h2, Bool.false_eq_true, if_false, cd_ne_ct, eqIgnoreCase_self, if_true, consume_app, Option.bind_some, readQuoted_ok n _ hn, hu,
    Bool.not_true, FN_eq, List.append_assoc, readQuoted_ok fn _ hf, hfu]

theorem headers_text (n rest : Bytes) (fuel : Nat) (hn : ∀ b ∈ n, b ≠ DQ) (hu : Http.validUtf8 n = true) :
    headers (fuel + 2) {} (CD ++ DQ :: (n ++ DQ :: CRLF) ++ CRLF ++ rest) = some ({ name := n }, rest) := by
  have e : CD ++ DQ :: (n ++ DQ :: CRLF) ++ CRLF ++ rest = CD ++ DQ :: (n ++ DQ :: (CRLF ++ (CRLF ++ rest))) := by simp
  rw [e, headers_cd_text _ _ _ _ hn hu, headers_end]

theorem headers_file (n rest : Bytes) (f : FileV) (fuel : Nat) (hn : ∀ b ∈ n, b ≠ DQ) (hu : Http.validUtf8 n = true)
    (hf : ∀ b ∈ f.filename, b ≠ DQ) (hfu : Http.validUtf8 f.filename = true) (hmu : Http.validUtf8 f.mimetype = true)
    (hmm : (f.mimetype == ascii "multipart/mixed") = false) (hmc : ∀ b ∈ f.mimetype, b ≠ CR) :
    headers (fuel + 3) {} (headerBlock (.file n f) ++ CRLF ++ rest) = some ({ name := n, mimetype := f.mimetype, filename := some f.filename }, rest) := by
  have e : headerBlock (.file n f) ++ CRLF ++ rest =
      CD ++ DQ :: (n ++ DQ :: (FN ++ DQ :: (f.filename ++ DQ :: (CRLF ++ (CT ++ (f.mimetype ++ (CRLF ++ (CRLF ++ rest)))))))) := by simp [headerBlock]
  rw [e, headers_cd_file _ _ _ _ _ hn hu hf hfu, headers_ct _ _ _ _ hmu hmm hmc, headers_end]

/-- the header block of a file part that carries no `Content-Type`: `Content-Disposition: form-data; name=".."; filename=".."` alone -/
def headerBlockNoCT (n fn : Bytes) : Bytes := CD ++ DQ :: (n ++ DQ :: (FN ++ DQ :: (fn ++ DQ :: CRLF)))

theorem headers_file_noct (n fn rest : Bytes) (fuel : Nat) (hn : ∀ b ∈ n, b ≠ DQ) (hu : Http.validUtf8 n = true)
    (hf : ∀ b ∈ fn, b ≠ DQ) (hfu : Http.validUtf8 fn = true) :
    headers (fuel + 2) {} (headerBlockNoCT n fn ++ CRLF ++ rest) = some ({ name := n, mimetype := [], filename := some fn }, rest) := by
  have e : headerBlockNoCT n fn ++ CRLF ++ rest = CD ++ DQ :: (n ++ DQ :: (FN ++ DQ :: (fn ++ DQ :: (CRLF ++ (CRLF ++ rest))))) := by
    simp [headerBlockNoCT]
  rw [e, headers_cd_file _ _ _ _ _ hn hu hf hfu, headers_end]

def DASH2 : Bytes := [45, 45]

/-- what follows the delimiter line by line: the parts, each closed by the delimiter, and the final `--` -/
def tail (delim : Bytes) : List Part → Bytes
  | [] => DASH2 ++ CRLF
  | p :: ps => CRLF ++ (headerBlock p ++ CRLF ++ (content p ++ CRLF ++ (delim ++ tail delim ps)))

/-- the body an RFC 7578 encoder writes for a form, with `delim` = `--` + boundary -/
def encode (delim : Bytes) (form : List Part) : Bytes := delim ++ tail delim form

/-- the delimiter — CRLF `--` boundary, RFC 2046 5.1.1 — does not occur in the content (nor straddling its end): the choice a conforming encoder
makes.  `--` boundary in the middle of a line is content like any other -/
def Fits (delim : Bytes) (p : Part) (rest : Bytes) : Prop :=
  ∀ i, i < (content p).length → (CRLF ++ delim).isPrefixOf ((content p ++ (CRLF ++ delim) ++ rest).drop i) = false

def FormOK (delim : Bytes) : List Part → Prop
  | [] => True
  | p :: ps => PartOK delim p ∧ Fits delim p (tail delim ps) ∧ FormOK delim ps

theorem headers_part (delim : Bytes) (p : Part) (hp : PartOK delim p) (rest : Bytes) (fuel : Nat) (hf : 3 ≤ fuel) :
    ∃ acc, headers fuel {} (headerBlock p ++ CRLF ++ rest) = some (acc, rest) ∧ acc.name = (match p with | .text n _ => n | .file n _ => n) ∧
      (match p with | .text _ _ => acc.filename = none | .file _ f => acc.filename = some f.filename ∧ acc.mimetype = f.mimetype) := by
  obtain ⟨k, rfl⟩ : ∃ k, fuel = k + 3 := ⟨fuel - 3, by omega⟩
  cases p with
  | text n t =>
    refine ⟨{ name := n }, ?_, rfl, rfl⟩
    have := headers_text n rest (k + 1) hp.name hp.name_utf8
    simpa [headerBlock] using this
  | file n f =>
    obtain ⟨h1, h2, h3, h4, h5, _⟩ := hp.file n f rfl
    exact ⟨_, headers_file n rest f k hp.name hp.name_utf8 h1 h2 h3 h4 h5, rfl, rfl, rfl⟩

theorem headerBlock_length (p : Part) : 2 ≤ (headerBlock p).length := by
  cases p <;> simp only [headerBlock, List.length_append, List.length_cons] <;> omega

theorem length_le_tail (delim : Bytes) : ∀ form : List Part, form.length ≤ (tail delim form).length := by
  intro form
  induction form with
  | nil => simp
  | cons p ps ih => have hc : CRLF.length = 2 := rfl; simp only [tail, List.length_append, List.length_cons]; omega

theorem parts_step (delim r c rest : Bytes) (h : HeaderAcc) (acc : List Part) (f : Nat)
    (hh : headers (r.length + 1) {} r = some (h, c ++ (CRLF ++ delim) ++ rest))
    (hfit : ∀ i, i < c.length → (CRLF ++ delim).isPrefixOf ((c ++ (CRLF ++ delim) ++ rest).drop i) = false) :
    parts (f + 1) delim (CRLF ++ r) acc =
      match h.filename with
      | none => if Http.validUtf8 c then parts f delim rest (acc ++ [.text h.name c]) else none
      | some fnm => parts f delim rest (acc ++ [.file h.name ⟨fnm, if h.mimetype.isEmpty then TEXT_PLAIN else h.mimetype, c⟩]) := by
  rw [parts, consume_app]
  simp only [hh, C10.readUntil_exact _ c rest hfit, consume_app]
  cases h.filename <;> rfl

theorem parts_tail (delim : Bytes) : ∀ (form : List Part) (acc : List Part) (fuel : Nat), FormOK delim form → form.length < fuel →
    parts fuel delim (tail delim form) acc = some (acc ++ form) := by
  intro form
  induction form with
  | nil =>
    intro acc fuel _ hf
    obtain ⟨f, rfl⟩ : ∃ f, fuel = f + 1 := ⟨fuel - 1, by omega⟩
    have : consume CRLF (tail delim []) = none := consume_head _ _ 13 45 rfl rfl (by decide)
    simp [parts, this]
  | cons p ps ih =>
    intro acc fuel ⟨hp, hfit, hrest⟩ hf
    obtain ⟨f, rfl⟩ : ∃ f, fuel = f + 1 := ⟨fuel - 1, by omega⟩
    obtain ⟨h, hh, hname, hkind⟩ := headers_part delim p hp (content p ++ CRLF ++ (delim ++ tail delim ps))
      ((headerBlock p ++ CRLF ++ (content p ++ CRLF ++ (delim ++ tail delim ps))).length + 1) (by simp [CRLF]; omega)
    have e : content p ++ CRLF ++ (delim ++ tail delim ps) = content p ++ (CRLF ++ delim) ++ tail delim ps := by simp
    rw [e] at hh
    rw [tail, e, parts_step delim _ (content p) (tail delim ps) h acc f hh hfit]
    have hlen : ps.length < f := by simp at hf; omega
    cases p with
    | text n t =>
      simp only at hkind hname
      simp only [hkind, hname, content, hp.text_utf8 n t rfl, if_true, ih _ f hrest hlen, List.append_assoc, List.singleton_append]
    | file n fv =>
      simp only at hkind hname
      have hmt : fv.mimetype.isEmpty = false := by simpa using (hp.file n fv rfl).2.2.2.2.2
      simp only [hkind.1, hkind.2, hname, content, hmt, Bool.false_eq_true, if_false, ih _ f hrest hlen, List.append_assoc, List.singleton_append]

/-- **A file part without `Content-Type` is `text/plain`** (RFC 7578 4.4: the header is optional).  Whatever the name, the file name and the content (with the
delimiter occurring nowhere in it), and wherever the part stands in the form: the part loop delivers the file under the media type `text/plain` and goes on with
the rest of the form. -/
theorem part_without_content_type (delim n fn c : Bytes) (ps acc : List Part) (f : Nat)
    (hn : ∀ b ∈ n, b ≠ DQ) (hu : Http.validUtf8 n = true) (hf : ∀ b ∈ fn, b ≠ DQ) (hfu : Http.validUtf8 fn = true)
    (hfit : ∀ i, i < c.length → (CRLF ++ delim).isPrefixOf ((c ++ (CRLF ++ delim) ++ tail delim ps).drop i) = false) :
    parts (f + 1) delim (CRLF ++ (headerBlockNoCT n fn ++ CRLF ++ (c ++ CRLF ++ (delim ++ tail delim ps)))) acc =
      parts f delim (tail delim ps) (acc ++ [.file n ⟨fn, TEXT_PLAIN, c⟩]) := by
  obtain ⟨k, hk⟩ : ∃ k, (headerBlockNoCT n fn ++ CRLF ++ (c ++ CRLF ++ (delim ++ tail delim ps))).length + 1 = k + 2 :=
    ⟨(headerBlockNoCT n fn ++ CRLF ++ (c ++ CRLF ++ (delim ++ tail delim ps))).length - 1, by
      have : CRLF.length = 2 := rfl
      simp only [List.length_append]; omega⟩
  have e : c ++ CRLF ++ (delim ++ tail delim ps) = c ++ (CRLF ++ delim) ++ tail delim ps := by simp
  have hh := headers_file_noct n fn (c ++ CRLF ++ (delim ++ tail delim ps)) k hn hu hf hfu
  rw [← hk, e] at hh
  rw [e, parts_step delim _ c (tail delim ps) _ acc f hh hfit]
  rfl

/-- **A form survives the trip.**  For every form (any number of text fields and files; names, filenames, media types and texts as `PartOK` admits, any
binary file contents) written by a conforming RFC 7578 encoder with a delimiter that occurs in no part, `Multipart::parse` recovers exactly the parts:
the same names and texts and, per file, the same filename, media type and byte-exact content, in submission order. -/
theorem parse_encode (delim : Bytes) (form : List Part) (hd : ∀ b ∈ delim, b ≠ CR) (hok : FormOK delim form) :
    parse (encode delim form) = some form := by
  unfold parse encode
  cases form with
  | nil =>
    -- the only line is `delim--`; `parse` answers `some []` on a first line that ends in `--` and is followed by CRLF alone
    have hd' : ∀ b ∈ delim ++ DASH2, b ≠ CR := List.forall_mem_append.mpr ⟨hd, by decide⟩
    have := readUntil_nocr' _ [] hd'
    simp only [tail, List.append_nil, ← List.append_assoc] at this ⊢
    rw [this]
    simp [DASH2, CRLF]
  | cons p ps =>
    -- the first line is `delim` (it holds no CR); what follows is neither empty nor CRLF alone, so the loop over the parts runs: `parts_tail`
    rw [tail, readUntil_nocr' _ _ hd]
    have hne : ((CRLF ++ (headerBlock p ++ CRLF ++ (content p ++ CRLF ++ (delim ++ tail delim ps)))).isEmpty ||
        (CRLF ++ (headerBlock p ++ CRLF ++ (content p ++ CRLF ++ (delim ++ tail delim ps))) == CRLF)) = false := by
      simp [CRLF]
    simp only [hne, Bool.and_false, Bool.false_eq_true, if_false]
    have := parts_tail delim (p :: ps) [] ((delim ++ tail delim (p :: ps)).length + 1) hok (by
      have := length_le_tail delim (p :: ps); simp only [List.length_append]; omega)
    simpa [tail] using this

-- non-vacuity: a text field and a file whose content holds CR LF, dashes and a NUL, under the delimiter `--X`
private def dX : Bytes := [45, 45, 88]
private def form2 : List Part := [.text [97] [104, 105], .file [102] ⟨[120, 46, 98], [97, 47, 98], [13, 10, 45, 45, 0]⟩]
example : FormOK dX form2 := by
  refine ⟨⟨by decide, by decide, ?_, ?_⟩, by unfold Fits; decide, ⟨by decide, by decide, ?_, ?_⟩, by unfold Fits; decide, trivial⟩
  · intro n f h; cases h
  · intro n t h; cases h; decide
  · intro n f h; cases h; decide
  · intro n t h; cases h


end Ohkami.Multipart
