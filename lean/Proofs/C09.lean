import OhkamiModel.P.SerdeFinal
/-! # C09 — property theorems about the URL-encoded writer (`encode`) and reader (`decode`) models -/
namespace C09
open Ohkami Ohkami.Serde Ohkami.Serde.Concrete

/-- **Round trip.** For every struct type with distinct non-empty field names and every value of it that is well-typed and
unambiguous (no `Some("")`, no `[""]`, no empty map key — the format's own ambiguities), the reader applied to the text
the writer produced returns exactly that value and consumes all of the text.  The text functions (`str::parse`,
`from_utf8`, percent-decoding) are the driver's concrete models, not assumptions (`prims_ok`). -/
theorem roundtrip_struct (fields : List (Bytes × Ty × Bool)) (fs : List (Bytes × Value)) (text : Bytes) (fuel : Nat)
    (hw : wellTyped Http.validUtf8 (.struct fields) (.struct fs) = true)
    (hu : unamb true (.struct fs) = true)
    (hnd : (fields.map (·.1)).Nodup) (hne : ∀ n ∈ fields.map (·.1), n ≠ [])
    (he : encode true (.struct fs) = .ok text)
    (hf : szp fs + 2 ≤ fuel) :
    ∃ side, decode prims false fuel (.struct fields) ⟨text, .key⟩ = .ok (.struct fs, ⟨[], side⟩) :=
  roundtrip_struct_concrete fields fs text fuel hw hu hnd hne he hf

/-- percent-decoding undoes percent-encoding for every byte string (strings with arbitrary Unicode and reserved characters) -/
theorem percent_roundtrip (bs : Bytes) : Percent.decode (Percent.encode bs) = bs := Percent.decode_encode bs

/-- the writer's escapes use only alphanumerics and `%XX` -/
theorem percent_alphabet (bs : Bytes) (x : UInt8) (h : x ∈ Percent.encode bs) : Percent.isAlnum x = true ∨ x = Percent.PCT :=
  Percent.encode_alphabet bs x h

/-- **Numbers are read per the percent-encoding rules too**: whatever way a client spells a number — any of its digits or its sign written as `%XX` —
the reader reads the number its percent-decoding denotes: if the section (free of `&` and `=`, followed by `&` or the end) decodes to the canonical
decimal of an in-range `z`, the unsigned / signed reader answers `z`.  (Before fix 2c45ee6 numbers and booleans were read from the raw text and
`id=%37` was refused.) -/
theorem escaped_number_decodes (sec rest : Bytes) (fuel bits : Nat) (z : Int) (hc : Clean sec) (hs : Stop rest)
    (hd : Percent.decode sec = showInt z) :
    (0 ≤ z → z < 2 ^ bits → decode prims false (fuel + 1) (.uint bits) ⟨sec ++ rest, .value⟩ = .ok (.int z, ⟨rest, .value⟩)) ∧
    (-(2 ^ (bits - 1) : Int) ≤ z → z < 2 ^ (bits - 1) → decode prims false (fuel + 1) (.sint bits) ⟨sec ++ rest, .value⟩ = .ok (.int z, ⟨rest, .value⟩)) :=
  dec_int prims prims_ok sec rest fuel bits z hc hs hd

/-- the hypothesis is met by a spelling with escapes: `%2D1%32` denotes -12 -/
example : Percent.decode [37, 50, 68, 49, 37, 51, 50] = [45, 49, 50] ∧ showInt (Int.negSucc 11) = [45, 49, 50] := by
  refine ⟨by simp [Percent.decode, Percent.unhex, Percent.PCT], by decide⟩

end C09
