import OhkamiModel.P.TopLevel
import OhkamiModel.P.ChainPerm
import OhkamiModel.P.FangsBuild
import OhkamiModel.P.FangsNodup
import OhkamiModel.P.FangsHit
import OhkamiModel.P.SearchP
/-! # C01 — property theorems.
Spec level: `greedyChain` on the flat route table (statics first, look-ahead over forced static chains).
Refinement: trie look-up = spec (segment level), byte-level search of the finalized router = trie look-up,
and the trie built by registration + mounts + fang application has exactly the flattened routes. -/
namespace C01
open Ohkami Ohkami.Fangs

/-- an application with a fang and a route, mounting under `/api/:v` an application with a fang that mounts a third one under `/ad` -/
def exApp : App :=
  .mk 0 true [([.static [104]], 1)]
    [([.static [97, 112, 105], .param],
      .mk 1 true [([.static [117]], 2)] [([.static [97, 100]], .mk 2 true [([], 3)] [])])]

/-- **A hit is right**: whenever the router's specification answers with a handler, that handler's route matches the path
segment by segment (static = identical bytes, param = non-empty segment, the captured params are those segments) and is
most-static among all matching routes. -/
theorem hit_sound (fuel : Nat) (rs : List (Route × Nat)) (segs : List Bytes) (h : Nat) (ps : List Bytes)
    (hwf : WFRoutes rs) (hg : greedyChain fuel rs segs = some (h, ps)) :
    ∃ r, (r, h) ∈ rs ∧ Matches r segs ps ∧
      ∀ r' h' ps', (r', h') ∈ rs → Matches r' segs ps' → MoreStatic r r' :=
  chain_hit_sound fuel rs segs h ps hwf hg

/-- **No match, no handler**: if no registered route matches, the literal statics-first walk finds nothing (404) -/
theorem miss (segs : List Bytes) (rs : List (Route × Nat))
    (hno : ∀ r h ps, (r, h) ∈ rs → ¬ Matches r segs ps) : greedy rs segs = none :=
  greedy_miss' segs rs hno

/-- **Registration order does not matter**: the outcome is a function of the route set -/
theorem order_independent (fuel : Nat) (rs rs' : List (Route × Nat)) (segs : List Bytes)
    (hp : rs.Perm rs') (hn : NodupRoutes rs) : greedyChain fuel rs segs = greedyChain fuel rs' segs :=
  chain_perm fuel rs rs' segs hp hn

/-- **Segment-level refinement**: the look-up that compression + statics-first descent compute on the registration trie is
the specification on the trie's route table -/
theorem trie_refines (fuel : Nat) (n : BNode) (segs : List Bytes) (hi : TInv n) :
    lookupC fuel n segs = greedyChain fuel (routesOf n) segs :=
  lookupC_eq_greedyChain fuel n segs hi

/-- **Byte-level refinement**: the search of the finalized (compressed, statics-first sorted) router on the bytes
`/s1/s2/…` is the segment-level look-up — patterns are matched up to segment boundaries only -/
theorem bytes_refine (fuel : Nat) (p : Seg) (h : Option Nat) (ks : List BNode) (segs : List Bytes)
    (hi : TInv (.mk p h ks)) (hns : NSK ks) (hss : ∀ x ∈ segs, NoSlash x) (hf : segs.length < fuel) :
    searchTop fuel (finalize (.mk p h ks)) (joinSegs segs) = lookupC fuel (.mk p h ks) segs :=
  searchTop_eq_lookupC fuel p h ks segs hi hns hss hf

/-- **Mounts flatten**: for every application tree (any nesting of mounts, fangs anywhere) that builds, the trie has
exactly the routes of the flattened configuration (mount prefix prepended to each route of the mounted application) -/
theorem mounts_flatten (cfg : App) (t : BN) (h : build cfg = some t) :
    (routesOfBN t).Perm (flatRoutes cfg) ∧ TreeOK t :=
  routes_build cfg t h

/-- **No twin siblings**: in the trie of every application tree that builds (any nesting of mounts, routes of the parent under a
mount prefix included, any registration order) the children of a node have pairwise distinct patterns — at most one param child,
no two static children with the same bytes — so no registered route sits behind a sibling that the search never enters.
(This failed before fix 8878fb7: `merge_here` pushed the mounted application's children beside the parent's.) -/
theorem siblings_distinct (cfg : App) (t : BN) (h : build cfg = some t) : ND t :=
  nd_build cfg t h

/-- **A hit is a registered, matching route — with fang scopes too.**  For every application tree (fangs at any level; the finalized router
inherits fang lists, compresses single-child static chains within a scope only and searches statics first — the very functions the
correspondence run executes), whatever the fuel: if the search answers with a handler, that handler is registered, in the flattened
configuration, on a route whose segments match the path one by one (`segUnder`: a static segment the identical bytes, a param any non-empty
segment) with nothing left over. -/
theorem hit_sound_scoped (cfg : App) (t : BN) (segs : List Bytes) (F G : Nat) (f : List Nat) (h : Nat) (hb : build cfg = some t)
    (hs : search G (finalize true F t false) segs = (f, some h)) :
    ∃ r, (r, h) ∈ flatRoutes cfg ∧ segUnder r segs = some [] := by
  obtain ⟨r, hr, hm⟩ := hit_route F G t false segs f h hs
  rw [build_pat cfg t hb] at hm
  exact ⟨r, (routes_build cfg t hb).1.mem_iff.mp hr, by rw [segUnder_eq_takePats]; exact hm⟩

/-- **No matching route, no handler — with fang scopes too**: the 404 half of the property for the router as it is built -/
theorem miss_scoped (cfg : App) (t : BN) (segs : List Bytes) (F G : Nat) (hb : build cfg = some t)
    (hno : ∀ r h, (r, h) ∈ flatRoutes cfg → segUnder r segs ≠ some []) :
    (search G (finalize true F t false) segs).2 = none := by
  cases hs : (search G (finalize true F t false) segs).2 with
  | none => rfl
  | some x =>
    obtain ⟨r, hr, hm⟩ := hit_sound_scoped cfg t segs F G _ x hb (Prod.ext rfl hs)
    exact absurd hm (hno r x hr)

/-- **The loop-shaped search is the proved search**: `searchP`, the formulation of the executable model that follows `Node::search_target` step by
step and collects the path params, answers — on the finalized router of every application tree, for every path, with fuel for one step per segment —
with the same fang list and the same handler as `search`, the function `hit_sound_scoped`, `miss_scoped` and `C04.scope` are about -/
theorem loop_search_is_search (cfg : App) (t : BN) (segs caps : List Bytes) (F G : Nat) (hb : build cfg = some t) (hG : segs.length + 1 ≤ G) :
    ((searchP G (finalize true F t false) segs caps).1, (searchP G (finalize true F t false) segs caps).2.1) = search G (finalize true F t false) segs :=
  searchP_eq_search G _ segs caps (finalize_nek F t false ((treeOK_iff t).mp (routes_build cfg t hb).2)) hG

/-- the two statements are about something: in `exApp` above (the tree of `C04.exampleApp`: three nested applications with fangs) `/api/7/u` is a hit of
handler 2 inside two applications, `/api/7/x` a miss -/
example : ((build C01.exApp).map fun t => ((search 9 (finalize true 9 t false) [[97, 112, 105], [55], [117]]).2,
    (search 9 (finalize true 9 t false) [[97, 112, 105], [55], [120]]).2)) = some (some 2, none) := by decide

/-! ### what is NOT a theorem: "a path that a registered route matches is answered by a handler"

The statement's first sentence presupposes it; the search does not go back, so it is false of the model and of the code alike (known finding
KF-C01-dead-end).  The witness, decided on the very functions the correspondence run executes: with `/abc/def` (1) and `/:p/xyz` (2) the path
`/abc/xyz` reaches handler 2 — the single-child chain `/abc/def` is one compressed pattern that fails as a whole —, with `/abc/ghi` (3) registered as
well it reaches nothing, although route `/:p/xyz` still matches it segment by segment.  `hit_sound_scoped` and `miss_scoped` are the part that holds:
a handler that runs is a matching route's, and nothing runs when no route matches. -/
def deadEndApp (withSibling : Bool) : App :=
  .mk 0 false ([([.static [97, 98, 99], .static [100, 101, 102]], 1), ([.param, .static [120, 121, 122]], 2)] ++
    (if withSibling then [([.static [97, 98, 99], .static [103, 104, 105]], 3)] else [])) []

theorem dead_end_witness :
    ((build (deadEndApp false)).map fun t => (search 9 (finalize true 9 t false) [[97, 98, 99], [120, 121, 122]]).2) = some (some 2) ∧
    ((build (deadEndApp true)).map fun t => (search 9 (finalize true 9 t false) [[97, 98, 99], [120, 121, 122]]).2) = some none := by decide

end C01
