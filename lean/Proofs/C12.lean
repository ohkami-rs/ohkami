import OhkamiModel.P.Jwt
import OhkamiModel.M.B64Url
/-! # C12 — property theorems about the model of `JWT::verified` (HMAC, JSON and the clock are parameters `E`) -/
namespace C12
open Ohkami Ohkami.Jwt Ohkami.B64

/-- **Soundness of admission**, for every environment (any MAC function, any JSON reader, any clock value), algorithm,
secret and Authorization value: the handler runs only for `Bearer h.p.s` with exactly three parts, whose signature decodes
to the MAC of `h.p` under the configured secret and algorithm, whose header names that algorithm, whose time claims admit
`now`, and the payload handed on is the one parsed from the signed part `p`. -/
theorem admit_sound (E : Env) (alg : Alg) (secret : Bytes) (isOptions : Bool) (auth : Option Bytes) (p : Nat)
    (h : verified E alg secret isOptions auth = .admit p) :
    isOptions = false ∧ ∃ v hp pp sp hdr pl, auth = some v ∧ bearer.isPrefixOf v = true ∧
      splitDots (v.drop bearer.length) = [hp, pp, sp] ∧
      (E.b64urlDec hp).bind E.jsonParse = some hdr ∧ hdr.alg = some (some alg.str) ∧
      (E.b64urlDec pp).bind E.jsonParse = some pl ∧ claimsAdmit pl E.now ∧
      E.b64urlDec sp = some (E.mac alg secret (hp ++ [DOT] ++ pp)) ∧ E.fromValue pl.payload = some p :=
  Ohkami.Jwt.admit_sound E alg secret isOptions auth p h

/-- the shape of an answer: admission, or one of the refusal statuses (200 only for the OPTIONS bypass) -/
def Shape (isOptions : Bool) : Out → Prop
  | .admit _ => True
  | .status code => code = 400 ∨ code = 401 ∨ code = 500 ∨ (code = 200 ∧ isOptions = true)

/-- every outcome other than admission is a status answer — 400, 401 or 500, or 200 for the OPTIONS bypass — and the
inside is not run -/
theorem refused_otherwise (E : Env) (alg : Alg) (secret : Bytes) (isOptions : Bool) (auth : Option Bytes) :
    Shape isOptions (verified E alg secret isOptions auth) := by
  rcases verified_cases E alg secret isOptions auth with ⟨c, hc, hs⟩ | ⟨p, hv, _⟩
  · rw [hc]; exact hs
  · rw [hv]; trivial

end C12

namespace Ohkami.Jwt
open Ohkami Ohkami.B64

/-- **Completeness of admission**: every `Bearer h.p.s` with exactly three parts whose header (with `typ` / `cty` absent or "JWT") names the
configured algorithm, whose claims admit `now`, and whose signature decodes to the MAC of `h.p` under the configured secret is admitted,
and the handler sees the payload parsed from `p`. -/
theorem admit_complete (E : Env) (alg : Alg) (secret v hp pp sp : Bytes) (hdr pl : Json) (p : Nat)
    (hv : bearer.isPrefixOf v = true) (hs : splitDots (v.drop bearer.length) = [hp, pp, sp])
    (hh : (E.b64urlDec hp).bind E.jsonParse = some hdr) (htyp : tagOk hdr.typ = true) (hcty : tagOk hdr.cty = true)
    (halg : hdr.alg = some (some alg.str))
    (hpl : (E.b64urlDec pp).bind E.jsonParse = some pl) (hc : claimsAdmit pl E.now)
    (hsig : E.b64urlDec sp = some (E.mac alg secret (hp ++ [DOT] ++ pp))) (hfv : E.fromValue pl.payload = some p) :
    verified E alg secret false (some v) = .admit p := by
  obtain ⟨h1, h2, h3⟩ := hc
  unfold verified
  simp [hv, hs, hh, htyp, hcty, halg, hpl, h1, h2, h3, hsig, hfv]

/-- **Issued tokens verify.**  Let `issue` build `b64(header) . b64(payload) . b64(mac)` for any header and payload texts; if the
environment's decoder inverts its encoder and the encoder writes no `.`, the header text parses to a header naming the algorithm and the payload
text parses to claims that admit `now`, the token is admitted with its payload — for every MAC function, secret and algorithm. -/
theorem issue_verifies (E : Env) (alg : Alg) (secret : Bytes) (enc : Bytes → Bytes) (headerText payloadText : Bytes) (hdr pl : Json) (p : Nat)
    (hdec : ∀ x, E.b64urlDec (enc x) = some x)
    (hnodot : ∀ x, DOT ∉ enc x)
    (hh : E.jsonParse headerText = some hdr) (htyp : tagOk hdr.typ = true) (hcty : tagOk hdr.cty = true) (halg : hdr.alg = some (some alg.str))
    (hpl : E.jsonParse payloadText = some pl) (hc : claimsAdmit pl E.now) (hfv : E.fromValue pl.payload = some p) :
    verified E alg secret false
      (some (bearer ++ (enc headerText ++ [DOT] ++ enc payloadText ++ [DOT] ++ enc (E.mac alg secret (enc headerText ++ [DOT] ++ enc payloadText))))) = .admit p := by
  refine admit_complete E alg secret _ (enc headerText) (enc payloadText) _ hdr pl p (by simp [bearer, List.isPrefixOf]) ?_
    (by simp [hdec, hh]) htyp hcty halg (by simp [hdec, hpl]) hc (hdec _) hfv
  simp only [List.drop_left, List.append_assoc, List.cons_append, List.nil_append, splitDots_append _ _ (hnodot _),
    splitDots_noDot _ (hnodot _)]

end Ohkami.Jwt
