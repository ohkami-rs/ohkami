import OhkamiModel.M.Dir
import OhkamiModel.M.DirComplete
import OhkamiModel.P.StaticTable
/-! # C19 — property theorems.  A mounted directory registers static routes only, so "nothing else is served" is the
routing specification (C01) specialised to static route tables. -/
namespace C19
open Ohkami

/-- a route without params matches exactly its own segment list and captures nothing -/
theorem matches_static_exact : ∀ (r : Route) (segs ps : List Bytes), AllStatic r → Matches r segs ps → segs = staticBytes r ∧ ps = [] := by
  intro r segs ps hs hm
  induction hm with
  | nil => exact ⟨rfl, rfl⟩
  | static s _ _ ih =>
    obtain ⟨h1, h2⟩ := ih (fun x hx => hs x (by simp [hx]))
    exact ⟨by simp [staticBytes, h1], h2⟩
  | param s _ _ _ =>
    obtain ⟨b, hb⟩ := hs .param (by simp)
    cases hb

/-- **Nothing else is served**: with only static routes registered (what `Dir` registers), a request reaches a handler only
if its normalised path is, segment for segment and byte for byte, exactly one of the derived routes — no `..`, no
percent-encoded or doubled separator, no near-miss name, no file outside the list can be reached. -/
theorem nothing_else (fuel : Nat) (rs : List (Route × Nat)) (segs : List Bytes) (h : Nat) (ps : List Bytes)
    (hwf : WFRoutes rs) (hall : ∀ rh ∈ rs, AllStatic rh.1) (hg : greedyChain fuel rs segs = some (h, ps)) :
    ∃ r, (r, h) ∈ rs ∧ segs = staticBytes r ∧ ps = [] := by
  obtain ⟨r, hm, hM, _⟩ := chain_hit_sound fuel rs segs h ps hwf hg
  obtain ⟨h1, h2⟩ := matches_static_exact r segs ps (hall _ hm) hM
  exact ⟨r, hm, h1, h2⟩

/-- every route `Dir` derives is static -/
theorem derive_all_static (mount omits : List Bytes) : ∀ (files : List Dir.FileEntry) (i : Nat) (routes : List (Route × Nat)),
    Dir.derive mount omits files i = .ok routes → ∀ rh ∈ routes, AllStatic rh.1 := by
  intro files i routes h rh hrh
  obtain ⟨_, _, _, _, p, _, _, _, _, _, hr⟩ := (Dir.derive_spec mount omits files i routes h).2 rh.1 rh.2 hrh
  rw [hr]
  exact allStatic_map _

theorem nodup_routes_unique : ∀ (rs : List (Route × Nat)) (r : Route) (a b : Nat), NodupRoutes rs → (r, a) ∈ rs → (r, b) ∈ rs → a = b :=
  fun _ _ _ _ hn ha hb => NodupRoutes_unique hn ha hb

/-- **Every file is served, at each of its paths**: when the start-up succeeds (`derive` accepts the file list and no two files claim one
route), then for every regular file of the list and each path the property assigns to it — the mount route followed by its relative
path, for `index.html` also its directory path, configured extensions cut off (`fileRoutes`) — the routing specification answers
exactly that path with that very file (index `k`: its bytes, the media type of its extension), capturing nothing. -/
theorem every_file_served (mount omits : List Bytes) (files : List Dir.FileEntry) (routes : List (Route × Nat))
    (hd : Dir.derive mount omits files 0 = .ok routes) (hmount : ∀ s ∈ mount, s ≠ []) (hnd : NodupRoutes routes)
    (k : Nat) (f : Dir.FileEntry) (hk : files[k]? = some f) :
    ∃ paths mime, Dir.fileRoutes omits f = .ok (paths, mime) ∧
      ∀ p ∈ paths, greedyChain ((mount ++ p).length + 1) routes (mount ++ p) = some (k, []) := by
  obtain ⟨paths, mime, h1, h2⟩ := (Dir.derive_spec mount omits files 0 routes hd).1 k f hk
  refine ⟨paths, mime, h1, ?_⟩
  intro p hp
  have hplain := plain_of (derive_all_static mount omits files 0 routes hd) (Dir.derive_wf mount omits hmount files 0 routes hd)
  rw [static_table _ _ _ hplain (Nat.lt_succ_self _), handlerAt_of_mem hnd (h2 p hp)]
  simp

/-- the start-up premise is met: two files, one of them an index.html, under the mount `/pub`, give three routes -/
example : ∃ routes, Dir.derive [[112, 117, 98]] [] [⟨[[97, 46, 116, 120, 116]], [104, 105]⟩, ⟨[[100], [105, 110, 100, 101, 120, 46, 104, 116, 109, 108]], [60, 112, 62]⟩] 0 = .ok routes
    ∧ routes.length = 3 := by
  refine ⟨_, rfl, rfl⟩

end C19
