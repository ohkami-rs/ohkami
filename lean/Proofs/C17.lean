import OhkamiModel.P.Sse
import OhkamiModel.GenSession
/-! # C17 — property theorems about the model of `QueueStream` and the event-stream framing -/
namespace C17
open Ohkami Ohkami.Sse

theorem drain_done (sched : List PStep) : ∀ (q : List Bytes) (fuel : Nat), q.length + 1 ≤ fuel →
    drain fuel ⟨q, true⟩ sched = q := by
  intro q
  induction q with
  | nil => intro fuel h; cases fuel <;> simp [drain, pollNext]
  | cons x q ih =>
    intro fuel h
    obtain ⟨f, rfl⟩ : ∃ f, fuel = f + 1 := ⟨fuel - 1, by omega⟩
    simp only [drain, pollNext, if_true, ih f (by simpa using h)]

theorem allPushes_cons (st : PStep) (rest : List PStep) :
    allPushes (st :: rest) = st.pushes ++ allPushes rest := by
  simp [allPushes]

/-- `hne`: the schedule does not run out on a Pending producer, so a poll that yields nothing is repeated -/
theorem drain_step (fuel : Nat) (q : List Bytes) (st : PStep) (rest : List PStep) (hne : st.ready = true ∨ rest ≠ []) :
    drain (fuel + 1) ⟨q, false⟩ (st :: rest) =
      (q ++ st.pushes).head?.toList ++ drain fuel ⟨(q ++ st.pushes).tail, st.ready⟩ rest := by
  cases hr : st.ready <;> cases hq : q ++ st.pushes <;> simp [drain, pollNext, hr, hq]
  · rcases hne with h | h
    · simp [hr] at h
    · simp [h]
  · cases fuel <;> simp [drain, pollNext]      -- completed with nothing queued: the drain that follows yields nothing

theorem head?_toList_append_tail {α} (l : List α) : l.head?.toList ++ l.tail = l := by cases l <;> rfl

/-- a schedule of Pending polls `pre` and a completing one, from any queue `q`: each poll yields at most the head of the queue, the rest
    waits, and after the completing step the drain empties what is left -/
theorem drain_go (last : PStep) (hlast : last.ready = true) : ∀ (pre : List PStep), (∀ s ∈ pre, s.ready = false) →
    ∀ (q : List Bytes) (fuel : Nat), pre.length + q.length + (allPushes (pre ++ [last])).length + 2 ≤ fuel →
    drain fuel ⟨q, false⟩ (pre ++ [last]) = q ++ allPushes (pre ++ [last]) := by
  intro pre
  induction pre with
  | nil =>
    intro _ q fuel hf
    obtain ⟨f, rfl⟩ : ∃ f, fuel = f + 1 := ⟨fuel - 1, by omega⟩
    have e : allPushes ([] ++ [last]) = last.pushes := by simp [allPushes]
    rw [e] at hf ⊢
    rw [List.nil_append, drain_step f q last [] (Or.inl hlast), hlast,
      drain_done [] _ f (by rw [List.length_tail, List.length_append]; simp only [List.length_nil] at hf; omega), head?_toList_append_tail]
  | cons p pre ih =>
    intro hpre q fuel hf
    obtain ⟨f, rfl⟩ : ∃ f, fuel = f + 1 := ⟨fuel - 1, by omega⟩
    rw [List.cons_append, allPushes_cons] at hf ⊢
    simp only [List.length_cons, List.length_append (as := p.pushes)] at hf
    rw [drain_step f q p _ (Or.inr (by simp)), hpre p (List.mem_cons_self ..),
      ih (fun s hs => hpre s (List.mem_cons_of_mem _ hs)) _ f (by rw [List.length_tail, List.length_append]; omega),
      ← List.append_assoc, head?_toList_append_tail, List.append_assoc]

/-- **None lost, duplicated or reordered.** For every producer schedule that completes (any pattern of Pending polls,
bursts of pushes before a yield, completion with a non-empty queue), the items the stream yields are exactly all the
pushes, in order. -/
theorem stream_delivers_all (sched : List PStep) (h : EndsReady sched) :
    drain (sched.length + (allPushes sched).length + 1) ⟨[], false⟩ sched = allPushes sched := by
  obtain ⟨pre, last, rfl, hlast, hpre⟩ := h
  exact drain_go last hlast pre hpre [] _ (by simp only [List.length_append, List.length_cons, List.length_nil]; omega)

/-- the body always ends with the terminating zero chunk -/
theorem body_terminated (items : List Bytes) : ∃ pre, body items = pre ++ [48, CR, LF, CR, LF] := ⟨_, rfl⟩

/-- an encoded message is never empty (so no data chunk can be mistaken for the terminating zero chunk) -/
theorem message_nonempty (chunk : Bytes) : 0 < (message chunk).length := by
  unfold message; simp

theorem normalizeNewlines_no_cr (bs : Bytes) : CR ∉ normalizeNewlines bs := by
  have hne : CR ≠ LF := by decide
  -- each case puts `LF`, or a byte that is not CR, in front of what the induction hypothesis covers
  fun_induction normalizeNewlines bs <;> simp [*, eq_comm]

/-- after normalisation no CR is left in a message: every line break the client will see was put there by the encoder -/
theorem normalize_no_cr : ∀ (n : Nat) (bs : Bytes), bs.length ≤ n → CR ∉ normalizeNewlines bs :=
  fun _ bs _ => normalizeNewlines_no_cr bs

/-- **At any pace**: the schedules of the model have no clock; that no timer of the session loop cuts a response that is being streamed is read off the
source on every run — the Keep-Alive timeout is put around the wait for a request and around nothing else, not around `send` — and exercised in real
time by the correspondence run (a stream with pauses longer than `OHKAMI_KEEPALIVE_TIMEOUT=2` over loopback TCP must end with its terminating chunk) -/
theorem source_no_timer_cuts_a_stream : Ohkami.Gen.keepAliveBoundsTheWaitOnly = true := by decide

end C17

namespace Ohkami.Sse

/-! ### a client: the event-stream interpretation (WHATWG HTML 9.2.6) restricted to what the server emits -/

/-- one line: up to the first LF and the rest after it; `none` if the stream ends before a line end -/
def takeLine : Bytes → Option (Bytes × Bytes)
  | [] => none
  | b :: t => if b = LF then some ([], t) else (takeLine t).map fun lr => (b :: lr.1, lr.2)

def dataColon : Bytes := [100, 97, 116, 97, 58]   -- "data:"

/-- the value of a `data` field line (`data:` then at most one space removed); `none` for any other line -/
def dataValue (line : Bytes) : Option Bytes :=
  if dataColon.isPrefixOf line then
    let v := line.drop 5
    some (if v.head? = some 32 then v.drop 1 else v)
  else none

/-- lines are processed in order: a data line appends its value and LF to the buffer; an empty line dispatches the buffer without its
last LF (nothing, if no data line came); anything else is ignored; an unterminated last line is dropped -/
def sseParse : Nat → Bytes → Bytes → List Bytes
  | 0, _, _ => []
  | fuel + 1, stream, buf =>
    match takeLine stream with
    | none => []
    | some (line, rest) =>
      if line = [] then (if buf = [] then sseParse fuel rest [] else buf.dropLast :: sseParse fuel rest [])
      else match dataValue line with
        | some v => sseParse fuel rest (buf ++ v ++ [LF])
        | none => sseParse fuel rest buf

theorem takeLine_line (l rest : Bytes) (h : LF ∉ l) : takeLine (l ++ LF :: rest) = some (l, rest) := by
  induction l with
  | nil => simp [takeLine]
  | cons b t ih =>
    have hb : b ≠ LF := fun e => h (by simp [e])
    have := ih (fun hm => h (List.mem_cons_of_mem _ hm))
    simp [takeLine, hb, this]

theorem dataValue_line (l : Bytes) : dataValue (dataPrefix ++ l) = some l := by
  simp [dataValue, dataPrefix, dataColon, List.isPrefixOf]

theorem splitOn_ne_nil (sep : UInt8) (bs : Bytes) : splitOn sep bs ≠ [] := by
  fun_cases splitOn sep bs <;> exact List.cons_ne_nil _ _

/-- `splitOn` never answers `[]`, so its `[] => [[]]` branch is dead -/
theorem splitOn_cons (sep b : UInt8) (t : Bytes) : ∃ l ls, splitOn sep t = l :: ls ∧
    splitOn sep (b :: t) = if b = sep then [] :: l :: ls else (b :: l) :: ls := by
  cases h : splitOn sep t with
  | nil => exact absurd h (splitOn_ne_nil sep t)
  | cons l ls => exact ⟨l, ls, rfl, by simp only [splitOn, h]⟩

theorem splitOn_no_sep (sep : UInt8) : ∀ (bs : Bytes), ∀ l ∈ splitOn sep bs, sep ∉ l := by
  intro bs
  induction bs with
  | nil => simp [splitOn]
  | cons b t ih =>
    obtain ⟨x, xs, ht, hb⟩ := splitOn_cons sep b t
    rw [ht, List.forall_mem_cons] at ih
    rw [hb]
    split
    · exact List.forall_mem_cons.2 ⟨List.not_mem_nil, List.forall_mem_cons.2 ih⟩
    · rename_i hne
      exact List.forall_mem_cons.2 ⟨fun hm => (List.mem_cons.1 hm).elim (fun e => hne e.symm) ih.1, ih.2⟩

theorem splitOn_flatten (sep : UInt8) : ∀ (bs : Bytes), ((splitOn sep bs).map (· ++ [sep])).flatten = bs ++ [sep] := by
  intro bs
  induction bs with
  | nil => rfl
  | cons b t ih =>
    obtain ⟨x, xs, ht, hb⟩ := splitOn_cons sep b t
    rw [ht] at ih
    rw [hb]
    split
    · rename_i e; simpa [e] using ih
    · simpa using ih

theorem splitOn_join (sep : UInt8) : ∀ (bs : Bytes), (((splitOn sep bs).map (· ++ [sep])).flatten).dropLast = bs := by
  intro bs
  rw [splitOn_flatten, List.dropLast_concat]

theorem parse_lines : ∀ (ls : List Bytes) (rest buf : Bytes) (fuel : Nat), (∀ l ∈ ls, LF ∉ l) →
    sseParse (fuel + ls.length) ((ls.map fun l => dataPrefix ++ l ++ [LF]).flatten ++ rest) buf =
      sseParse fuel rest (buf ++ (ls.map (· ++ [LF])).flatten) := by
  intro ls
  induction ls with
  | nil => intro rest buf fuel _; simp
  | cons l ls ih =>
    intro rest buf fuel h
    have hl : LF ∉ dataPrefix ++ l := fun hm =>
      (List.mem_append.mp hm).elim (by decide) (h l (List.mem_cons_self ..))
    have e : ((l :: ls).map fun l => dataPrefix ++ l ++ [LF]).flatten ++ rest
        = (dataPrefix ++ l) ++ LF :: ((ls.map fun l => dataPrefix ++ l ++ [LF]).flatten ++ rest) := by simp
    rw [e, show fuel + (l :: ls).length = (fuel + ls.length) + 1 by simp; omega, sseParse, takeLine_line _ _ hl]
    have hne : dataPrefix ++ l ≠ [] := by simp [dataPrefix]
    simp only [hne, if_false, dataValue_line]
    rw [ih rest _ fuel (fun x hx => h x (List.mem_cons_of_mem _ hx))]
    simp

/-- **One message decodes to its text** (line breaks normalised to LF), and the parser goes on with an empty buffer -/
theorem parse_message (chunk rest : Bytes) (fuel : Nat) :
    sseParse (fuel + (splitOn LF (normalizeNewlines chunk)).length + 1) (message chunk ++ rest) [] =
      normalizeNewlines chunk :: sseParse fuel rest [] := by
  unfold message
  have hls := splitOn_no_sep LF (normalizeNewlines chunk)
  have e : ((splitOn LF (normalizeNewlines chunk)).map fun line => dataPrefix ++ line ++ [LF]).flatten ++ [LF] ++ rest
      = ((splitOn LF (normalizeNewlines chunk)).map fun line => dataPrefix ++ line ++ [LF]).flatten ++ (LF :: rest) := by simp
  rw [e, show fuel + (splitOn LF (normalizeNewlines chunk)).length + 1 = (fuel + 1) + (splitOn LF (normalizeNewlines chunk)).length by omega,
    parse_lines _ _ _ _ hls, sseParse]
  have htl : takeLine (LF :: rest) = some ([], rest) := by simp [takeLine]
  simp only [htl, if_true, List.nil_append]
  have hne : ((splitOn LF (normalizeNewlines chunk)).map (· ++ [LF])).flatten ≠ [] := by
    rw [splitOn_flatten]
    simp
  simp only [hne, if_false, splitOn_join]

def linesOf (items : List Bytes) : Nat := (items.map fun c => (splitOn LF (normalizeNewlines c)).length + 1).sum

/-- **The event stream decodes to exactly the messages**, in order: none lost, duplicated, merged or split — whatever the texts hold
(empty strings, CR / LF / CRLF, `data:` or `event:` look-alikes, leading spaces, any bytes); the trailing `sseParse fuel [] []` is `[]`
(`sseParse_end`) and is there for the induction -/
theorem stream_decodes : ∀ (items : List Bytes) (fuel : Nat),
    sseParse (fuel + linesOf items) ((items.map message).flatten) [] = items.map normalizeNewlines ++ sseParse fuel [] [] := by
  intro items
  induction items with
  | nil => intro fuel; simp [linesOf]
  | cons c cs ih =>
    intro fuel
    have e : ((c :: cs).map message).flatten = message c ++ (cs.map message).flatten := by simp
    have hl : fuel + linesOf (c :: cs) = (fuel + linesOf cs) + (splitOn LF (normalizeNewlines c)).length + 1 := by
      simp [linesOf]; omega
    rw [e, hl, parse_message, ih]
    simp

theorem sseParse_end (fuel : Nat) : sseParse fuel [] [] = [] := by
  cases fuel <;> simp [sseParse, takeLine]

/-! ### a client: the chunked transfer coding (RFC 9112 7.1) -/

def hexVal (b : UInt8) : Option Nat :=
  if 48 ≤ b ∧ b ≤ 57 then some (b.toNat - 48) else if 97 ≤ b ∧ b ≤ 102 then some (b.toNat - 87) else none

/-- `1*HEXDIG` (lowercase), most significant digit first -/
def parseHex (ds : Bytes) : Option Nat :=
  if ds = [] then none else ds.foldl (fun acc d => acc.bind fun a => (hexVal d).map (a * 16 + ·)) (some 0)

/-- the bytes before the first CRLF and the bytes after it -/
def takeCRLF : Bytes → Option (Bytes × Bytes)
  | [] => none
  | [_] => none
  | b :: c :: t => if b = CR ∧ c = LF then some ([], t) else (takeCRLF (c :: t)).map fun lr => (b :: lr.1, lr.2)

/-- `chunked-body = *chunk last-chunk CRLF` without extensions or trailers: the concatenated chunk data -/
def dechunk : Nat → Bytes → Option Bytes
  | 0, _ => none
  | fuel + 1, bs =>
    match takeCRLF bs with
    | none => none
    | some (sz, rest) =>
      match parseHex sz with
      | none => none
      | some 0 => if rest = [CR, LF] then some [] else none
      | some n =>
        if n + 2 ≤ rest.length ∧ (rest.drop n).take 2 = [CR, LF] then (dechunk fuel (rest.drop (n + 2))).map (rest.take n ++ ·) else none

theorem hexVal_digit : ∀ d : Fin 16, hexVal (hexDigit d.val) = some d.val := by decide

theorem hexDigit_ne_cr : ∀ d : Fin 16, hexDigit d.val ≠ CR := by decide

theorem hexNoLeading_ne_nil (f n : Nat) : hexNoLeading (f + 1) n ≠ [] := by
  simp only [hexNoLeading]; split <;> simp

theorem hexNoLeading_no_cr : ∀ (f n : Nat), CR ∉ hexNoLeading f n := by
  intro f n
  have hd : ∀ d, d < 16 → CR ≠ hexDigit d := fun d h => (hexDigit_ne_cr ⟨d, h⟩).symm
  fun_induction hexNoLeading f n with
  | case1 => exact List.not_mem_nil
  | case2 f n h => simpa using hd n h
  | case3 f n h ih => simpa [ih] using hd (n % 16) (Nat.mod_lt _ (by decide))

/-- for `f = 0` the hypothesis leaves `n = 0`: no digit, and `some 0` -/
theorem foldHex_eq (f : Nat) : ∀ n, n < 16 ^ f →
    (hexNoLeading f n).foldl (fun acc d => acc.bind fun a => (hexVal d).map (a * 16 + ·)) (some 0) = some n := by
  intro n hn
  fun_induction hexNoLeading f n with
  | case1 n =>
    obtain rfl : n = 0 := by simpa using hn
    rfl
  | case2 f n h => simp [hexVal_digit ⟨n, h⟩]
  | case3 f n h ih =>
    have hd := hexVal_digit ⟨n % 16, Nat.mod_lt _ (by decide)⟩
    have hq : n / 16 < 16 ^ f := Nat.div_lt_of_lt_mul (by rw [Nat.pow_succ] at hn; omega)
    simp only [List.foldl_append, ih hq, List.foldl_cons, List.foldl_nil, Option.bind_some, hd, Option.map_some, Option.some.injEq]
    omega

theorem foldHex (f : Nat) : ∀ n, n < 16 ^ f → (hexNoLeading f n).foldl (fun acc d => acc.bind fun a => (hexVal d).map (a * 16 + ·)) (some 0) = some n ∨ f = 0 :=
  fun n hn => Or.inl (foldHex_eq f n hn)

theorem parseHex_hex (n : Nat) (h : n < 16 ^ 16) : parseHex (hexNoLeading 16 n) = some n := by
  rw [parseHex, if_neg (hexNoLeading_ne_nil 15 n)]
  exact foldHex_eq 16 n h

theorem takeCRLF_line : ∀ (l rest : Bytes), CR ∉ l → takeCRLF (l ++ CR :: LF :: rest) = some (l, rest) := by
  intro l
  induction l with
  | nil => intro rest _; simp [takeCRLF]
  | cons b t ih =>
    intro rest h
    have hb : b ≠ CR := fun e => h (by simp [e])
    have := ih rest (fun hm => h (List.mem_cons_of_mem _ hm))
    cases t with
    | nil => simp [takeCRLF, hb] at this ⊢
    | cons c t' => simp only [List.cons_append] at this ⊢; simp [takeCRLF, hb, this]

theorem dechunk_chunk (fuel : Nat) (msg rest : Bytes) (hpos : 0 < msg.length) (hlt : msg.length < 16 ^ 16) :
    dechunk (fuel + 1) (chunkOf msg ++ rest) = (dechunk fuel rest).map (msg ++ ·) := by
  have e : chunkOf msg ++ rest = hexNoLeading 16 msg.length ++ CR :: LF :: (msg ++ CR :: LF :: rest) := by simp [chunkOf]
  rw [e, dechunk, takeCRLF_line _ _ (hexNoLeading_no_cr _ _)]
  simp only [parseHex_hex _ hlt]
  -- the size is `k + 1`, so the match takes the data-chunk branch, not the last-chunk one
  obtain ⟨k, hk⟩ : ∃ k, msg.length = k + 1 := ⟨msg.length - 1, by omega⟩
  have h1 : msg.length + 2 ≤ (msg ++ CR :: LF :: rest).length := by simp only [List.length_append, List.length_cons]; omega
  have h2 : ((msg ++ CR :: LF :: rest).drop msg.length).take 2 = [CR, LF] := by rw [List.drop_left]; rfl
  have h3 : (msg ++ CR :: LF :: rest).drop (msg.length + 2) = rest := by rw [← List.drop_drop, List.drop_left]; rfl
  have h4 : (msg ++ CR :: LF :: rest).take msg.length = msg := List.take_left
  rw [hk] at h1 h2 h3 h4
  simp only [hk, h1, h2, and_self, if_true, h3, h4]

/-- **De-chunking the body gives the concatenated event stream**, and the body ends with the last-chunk: a client knows where the
response ends -/
theorem dechunk_body : ∀ (items : List Bytes), (∀ c ∈ items, (message c).length < 16 ^ 16) →
    dechunk (items.length + 1) (body items) = some ((items.map message).flatten) := by
  intro items
  induction items with
  | nil => intro _; decide
  | cons c cs ih =>
    intro h
    have e : body (c :: cs) = chunkOf (message c) ++ body cs := by simp [body]
    rw [e, List.length_cons, dechunk_chunk _ _ _ (C17.message_nonempty c) (h c (List.mem_cons_self ..)),
      ih fun x hx => h x (List.mem_cons_of_mem _ hx)]
    simp

/-- **What the client receives decodes to exactly what the handler sent.**  The bytes after the response head are a valid chunked body ending
with the last-chunk; de-chunked they are a valid event stream; interpreted as the event-stream format prescribes they are exactly the
messages, in order, each with its line breaks normalised to LF — for every list of messages whatever they contain (message sizes below
2^64, the range of the size rendering). -/
theorem wire_decodes (items : List Bytes) (h : ∀ c ∈ items, (message c).length < 16 ^ 16) :
    ∃ stream, dechunk (items.length + 1) (body items) = some stream ∧ sseParse (1 + linesOf items) stream [] = items.map normalizeNewlines := by
  refine ⟨_, dechunk_body items h, ?_⟩
  rw [stream_decodes items 1, sseParse_end]; simp

-- non-vacuity: three messages, one empty, one with CRLF and a look-alike field name
example : (dechunk 4 (body [[], [97, 13, 10, 98], [100, 97, 116, 97, 58, 120]])).map (sseParse 8 · []) =
    some [[], [97, 10, 98], [100, 97, 116, 97, 58, 120]] := by decide

end Ohkami.Sse
