import OhkamiModel.M.Extract
/-! # C07 — property theorems about the extraction model -/
namespace C07
open Ohkami Ohkami.Extract Ohkami.Serde.Concrete

/-- **An integer is accepted only as a whole, in-range numeral**: if `str::parse` (the model of it) accepts a text for a
type of the given signedness and width, the text is an optional sign followed by at least one digit and nothing else
(no `-` for unsigned types), the value is the number it denotes, and it lies in the type's range. -/
theorem int_accept_sound (signed : Bool) (bits : Nat) (s : Bytes) (z : Int) (h : parseInt signed bits s = some z) :
    (if signed then -(2 ^ (bits - 1) : Int) ≤ z ∧ z ≤ (2 ^ (bits - 1) : Int) - 1 else 0 ≤ z ∧ z ≤ (2 ^ bits : Int) - 1) ∧
    (splitSign s).2 ≠ [] ∧ (splitSign s).2.all (fun b => 48 ≤ b && b ≤ 57) = true ∧ (s.head? = some 45 → signed = true) ∧
    z = (if (splitSign s).1 then -(val (splitSign s).2 : Int) else (val (splitSign s).2 : Int)) :=
  have ⟨h45, hne, hall, hz, hr⟩ := (parseInt_eq_some_iff signed bits s z).mp h
  ⟨hr, hne, hall, h45, hz⟩

/-- **Every in-range integer is accepted in its canonical spelling** (the number printer's output), with that value -/
theorem int_accept_complete_unsigned (bits : Nat) (z : Int) (h0 : 0 ≤ z) (h1 : z < 2 ^ bits) :
    parseInt false bits (Ohkami.Serde.showInt z) = some z := parse_show_U bits z h0 h1

theorem int_accept_complete_signed (bits : Nat) (z : Int) (h0 : -(2 ^ (bits - 1) : Int) ≤ z) (h1 : z < 2 ^ (bits - 1)) :
    parseInt true bits (Ohkami.Serde.showInt z) = some z := parse_show_S bits z h0 h1

theorem itemValue_ok_iff (it : Item) :
    (∃ v, itemValue it = .ok v) ↔ (it.found != .err && (it.optional || it.found != .absent)) = true := by
  unfold itemValue
  cases it.found <;> cases it.optional <;> simp

/-- **The handler runs iff every declared item is produced**: it runs exactly when every path param converts and every
required item is found and decodes; an optional item is `None` only when the request does not carry it. -/
theorem handler_runs_iff (ptys : List PTy) (captures : List Bytes) (items : List Item) (hlen : ptys.length ≤ captures.length) :
    (∃ ps vs, handle ptys captures items = .ran ps vs) ↔
      ((ptys.zip captures).all (fun (t, c) => (fromParam t c).isSome) = true ∧
       items.all (fun it => it.found != .err && (it.optional || it.found != .absent)) = true) := by
  have hz : ((ptys.zip captures).map fun (t, c) => fromParam t c).length = ptys.length := by simp; omega
  have hany : (((ptys.zip captures).map fun (t, c) => fromParam t c).any (·.isNone)) = true ↔
      ¬ (ptys.zip captures).all (fun (t, c) => (fromParam t c).isSome) = true := by
    simp [Option.isNone_iff_eq_none, Option.isSome_iff_ne_none]
  -- the right-hand side, rewritten backwards into the two tests `handle` makes: no param fails to convert (`hany`), and `mapM itemValue`
  -- succeeds; then one case per exit of `handle`
  rw [List.all_eq_true (l := items)]
  simp only [← itemValue_ok_iff, ← List.mapM_except_ok_iff]
  unfold handle
  simp only [hz, Nat.lt_irrefl, if_false, hany]
  split
  · simp [*]
  · rename_i h
    have h := Decidable.not_not.mp h
    split <;> simp [*]

/-- an optional item is `None` only when absent; a present item that does not decode is an error even for `Option<_>` -/
theorem option_none_only_absent (it : Item) (h : itemValue it = .ok none) : it.found = .absent ∧ it.optional = true := by
  unfold itemValue at h
  cases hf : it.found <;> cases ho : it.optional <;> simp [hf, ho] at h ⊢

end C07
