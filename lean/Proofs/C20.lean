import OhkamiModel.TimeRenderProofs
import OhkamiModel.M.Num
/-! # C20 — property theorems.  `fields` is built from definitions TRANSLATED from ohkami_lib/src/time.rs on every run
(GenTime.lean), `itoaGen` / `hexizedGen` run on the digit list and match arms read from ohkami_lib/src/num.rs (GenNum.lean). -/
namespace C20
open Ohkami.Time Ohkami.Num

/-- For every timestamp up to 9999-12-31T23:59:59 `imf_fixdate` writes the 29-byte RFC 9110 IMF-fixdate whose day name,
day, month, year and time of day are those of that instant in the proleptic Gregorian calendar (valid date, day number =
days since 1970-01-01 + `dayNumber 1970 1 1`, weekday = (days + 4) mod 7), and no unchecked access goes out of range. -/
theorem imf_fixdate_exact (t : Nat) (ht : t ≤ 253402300799) :
    let F := fields t
    render F = .ok (imfSpec F)
    ∧ ValidDate F.year (F.monthIdx + 1) F.day
    ∧ dayNumber F.year (F.monthIdx + 1) F.day = t / 86400 + (719163 + 365 + 1)
    ∧ F.wday = (t / 86400 + 4) % 7
    ∧ F.hour = t % 86400 / 3600 ∧ F.min = t % 3600 / 60 ∧ F.sec = t % 60 :=
  Ohkami.Time.imf_fixdate_exact t ht

/-- `itoa` (with the unroll list of the current source) writes the canonical decimal digits of every `usize`, each a single digit -/
theorem itoa_exact (n : Nat) (hn : n < 2 ^ 64) : itoaGen n = digitsBE n ∧ ∀ q ∈ itoaGen n, q < 10 := by
  rw [itoaGen_eq]; exact Ohkami.Num.itoa_exact n hn

/-- `hexized` (with the match arms of the current source) never reaches its unreachable arm and writes the 16-digit
lowercase hexadecimal of every `usize` -/
theorem hexized_exact (n : Nat) : hexizedGen n = some (hexSpec n) := by
  rw [hexizedGen_eq, Ohkami.Num.hexized_exact]

/-- the canonical decimal used as specification is positional notation: its value is `n` and it has no leading zero -/
theorem digitsBE_value (n : Nat) : (digitsBE n).foldl (fun a d => 10 * a + d) 0 = n ∧ (n ≥ 10 → (digitsBE n).head? ≠ some 0) := by
  fun_induction digitsBE n with
  | case1 n h => exact ⟨by simp, by omega⟩
  | case2 n h ih =>
    refine ⟨by simp [ih.1]; omega, fun _ => ?_⟩
    by_cases h2 : n / 10 < 10
    · rw [digitsBE, dif_pos h2]; simp; omega
    · cases hd : digitsBE (n / 10) with
      | nil => rw [digitsBE, dif_neg h2] at hd; simp at hd
      | cons a l => simpa [hd] using ih.2 (by omega)

end C20
