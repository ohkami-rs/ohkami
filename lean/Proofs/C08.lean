import OhkamiModel.P.SerdeTotal
import OhkamiModel.M.Cookie
import Proofs.C10
/-! # C08 — property theorems: the decoders facing untrusted bytes are total, their unchecked operations are within
bounds, the strings they yield are UTF-8, the slices they yield lie inside the input. -/
namespace C08
open Ohkami

/-- **URL-encoded reader**: for every input, target type (any nesting of the serde data model) and fuel, the reader with the repaired
section handling (`next_section()?` in place of `.unwrap()`) cannot panic: it answers a value, an error, or runs out of fuel -/
theorem urlencoded_total (P : Serde.Prims) (fuel : Nat) (ty : Serde.Ty) (input : Bytes) :
    Serde.NoCrash (Serde.decode P false fuel ty ⟨input, .key⟩) :=
  Serde.from_bytes_total P fuel ty input

/-- **Cookie reader, `take_n_unchecked(n)`**: the index it is called with is a position inside the input -/
theorem cookie_take_in_bounds (p : UInt8 → Bool) : ∀ (bs : Bytes) (n : Nat), Cookie.position p bs = some n → n < bs.length := by
  intro bs n
  fun_induction Cookie.position p bs generalizing n with
  | case1 => exact nofun
  | case2 b bs hb =>
    rintro ⟨⟩
    exact Nat.zero_lt_succ _
  | case3 b bs hb ih =>
    intro h
    obtain ⟨m, hm, rfl⟩ := Option.map_eq_some_iff.mp h
    exact Nat.succ_lt_succ (ih m hm)

/-- **Cookie reader**: every value it yields is valid UTF-8 (the percent-decoded bytes are checked, not assumed) -/
theorem cookie_value_utf8 (raw v : Bytes) (b : Bool) (h : Cookie.validValue raw = some (v, b)) : Http.validUtf8 v = true := by
  revert h
  fun_cases Cookie.validValue raw
  case case2 bs _ dec hv => exact fun h => (Prod.mk.inj (Option.some.inj h)).1 ▸ hv
  all_goals exact nofun

/-- **Multipart reader**: what `read_until` hands out is a prefix of what it was given (so the boundary line, the media type and
the content of every part are slices of the request body) -/
theorem multipart_slice_inside (pat bs : Bytes) : (Multipart.readUntil pat bs).1 <+: bs :=
  ⟨_, C10.readUntil_split pat bs⟩

/-- **Percent-decoding** never produces more bytes than it reads -/
theorem percent_decode_len : ∀ (n : Nat) (bs : Bytes), bs.length ≤ n → (Percent.decode bs).length ≤ bs.length :=
  fun _ bs _ => Percent.decode_length_le bs

end C08
