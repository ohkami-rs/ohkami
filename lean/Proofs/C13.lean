import OhkamiModel.P.BasicAuthProofs
import OhkamiModel.Http
/-! # C13 — property theorems about the model of `BasicAuth::fore` (single and array form share it) -/
namespace C13
open Ohkami Ohkami.B64 Ohkami.BasicAuth

/-- **The iff.** For configured pairs whose user-ids contain no `:` (RFC 7617) and are text: the handler runs iff the
Authorization value is `Basic ` followed by the (canonical, padded) base64 of `user:password` of one configured pair. -/
theorem admit_iff (pairs : List Pair)
    (hu : ∀ pr ∈ pairs, colon ∉ pr.user) (hv : ∀ pr ∈ pairs, Http.validUtf8 (pr.user ++ [colon] ++ pr.pass) = true)
    (auth : Option Bytes) :
    fore Http.validUtf8 pairs auth = .admit ↔
      ∃ pr ∈ pairs, auth = some (basicPrefix ++ encode (pr.user ++ [colon] ++ pr.pass)) :=
  admit_iff' Http.validUtf8 pairs hu hv auth

/-- base64 (standard alphabet, padded) round trip and canonicity: no second spelling of a credential is accepted -/
theorem b64_roundtrip (bs : Bytes) : decode (encode bs) = some bs := decode_encode' bs
theorem b64_canonical (s bs : Bytes) (h : decode s = some bs) : s = encode bs := encode_decode' s bs h

/-- every refusal is the 401 outcome; the repaired code has no panicking path -/
theorem refusal_shape (pairs : List Pair) (auth : Option Bytes) :
    fore Http.validUtf8 pairs auth = .admit ∨ fore Http.validUtf8 pairs auth = .unauthorized := by
  fun_cases fore Http.validUtf8 pairs auth <;> simp

end C13
