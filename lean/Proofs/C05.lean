import OhkamiModel.M.SessionProofs
import OhkamiModel.M.SessionOne
import OhkamiModel.GenSession
/-! # C05 — property theorems about the session-loop model -/
namespace C05
open Ohkami Ohkami.Session

/-- **Nothing from earlier requests is observable.** For every application, every connection script (any chunks, any
bytes, any length) and a fresh request object: the responses and the end of the session are the same whether the
handler is given the state the previous request left behind or the state of a freshly initialised request — `clear`
resets every observable field before each read, because a request that left anything behind started with a method
letter, never with NUL. -/
theorem no_residue (app : App) (fuel : Nat) (conn : Conn) :
    run app fuel ⟨none, 0⟩ conn = run (forget app) fuel ⟨none, 0⟩ conn :=
  residue_irrelevant app fuel ⟨none, 0⟩ conn (Or.inl rfl)

/-- an accepted request's first read starts with a method letter (the fact `clear` relies on) -/
theorem accepted_starts_with_letter (first more : Bytes) (p : Http.Parsed) (h : Http.parse first more = .ok p) : first.headD 0 ≠ 0 :=
  parse_ok_head first more p h

/-- **The k-th request receives the response it would receive alone, in order, and `Connection: close` ends the session.**
If every chunk holds exactly one complete request (`Exact`: parsed on its own it is accepted or refused; an accepted one ends exactly
where the chunk ends — its head within the first 1 KiB read, the rest of its body after it), then the
responses written on the connection are `expected`: request by request what `answer` gives — the response of the same request on a fresh
connection — and nothing after the response to a request that asked `Connection: close`.  For every application (which may even
inspect the reused request object: it finds nothing), any number of requests, any bytes including NUL, any sizes. -/
theorem one_per_chunk (app : App) (cs : List Bytes) (hex : ∀ c ∈ cs, Exact c) (fuel : Nat) (hf : cs.length < fuel) (eof : Bool) :
    (run app fuel ⟨none, 0⟩ ⟨cs, eof⟩).1 = expected app cs := by
  rw [residue_irrelevant app fuel ⟨none, 0⟩ ⟨cs, eof⟩ (Or.inl rfl)]
  exact Session.one_per_chunk app cs hex fuel hf _ eof

/-- what a request gets alone on a fresh connection is its `answer` -/
theorem fresh_connection (app : App) (c : Bytes) (hex : Exact c) :
    (run app 2 ⟨none, 0⟩ ⟨[c], true⟩).1 = (match answer app c with | some (out, _) => [out] | none => []) := by
  rw [one_per_chunk app [c] (List.forall_mem_singleton.mpr hex) 2 (by simp) true]
  simp only [expected]
  cases answer app c with
  | none => rfl
  | some oc => obtain ⟨out, close⟩ := oc; cases close <;> simp

/-! non-vacuity: a chunk that meets `Exact` -/
private def getRoot : Bytes := [71,69,84,32,47,32,72,84,84,80,47,49,46,49,13,10,13,10]
private theorem getRoot_parse : Http.parse getRoot [] = Http.Outcome.ok (⟨"GET", [], none, [], [], none⟩ : Http.Parsed) := by rfl
example : Exact getRoot := by
  unfold Exact
  refine ⟨by decide, ?_⟩
  have h1 : getRoot.take BUF = getRoot := by decide
  have h2 : getRoot.drop BUF = [] := by decide
  rw [h1, h2, getRoot_parse]; rfl

/-- the loop the theorems are about is the loop of the source (the arms of the match on `Request::read` in `Session::manage`, regenerated on every run) -/
theorem source_ends_session_after_refusal :
    Ohkami.Gen.refusalIsAnswered = true ∧ Ohkami.Gen.refusalEndsSession = true ∧ Ohkami.Gen.noRequestEndsSession = true := by decide

/-- what the model has no clock or mutable `ip` field to exhibit is read off the source: the Keep-Alive timeout is put around the wait for a request and
around nothing else (a request that comes in time is answered however old the session is and however long its handler takes), and the connection's
address is written back into the reused request object before each request (what a fang wrote into the public field `ip` is not the next request's).
Both are also exercised in real time by the correspondence run (scenario `timed` of the C05 executor, `OHKAMI_KEEPALIVE_TIMEOUT=2`). -/
theorem source_session_is_per_request : Ohkami.Gen.keepAliveBoundsTheWaitOnly = true ∧ Ohkami.Gen.ipRestored = true := by decide

end C05
