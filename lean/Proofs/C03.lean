import OhkamiModel.M.ResponseProofs
import OhkamiModel.M.ResponseWire
import OhkamiModel.M.Framing
import OhkamiModel.M.ResponseNames
/-! # C03 — property theorems: the statements; the proofs are in OhkamiModel/P/Listing.lean, P/Resp*.lean, M/Response*.lean and M/Framing.lean -/
namespace C03
open Ohkami Ohkami.Response

/-- For every configuration of header names / status lines, every status, date value and finite sequence of
public operations: the bytes `send` writes are exactly as many as the capacity it reserved. -/
theorem send_exact (c : Cfg) (ok : c.OK) (status : Nat) (date : Bytes) (ops : List ROp)
    (hk : ∀ op ∈ ops, op.keyOk c.n) :
    (render c (build c status date ops)).length = declared c (build c status date ops) :=
  Response.send_exact c ok status date ops hk

/-- no unchecked push overruns the buffer -/
theorem send_no_overrun (c : Cfg) (ok : c.OK) (status : Nat) (date : Bytes) (ops : List ROp)
    (hk : ∀ op ∈ ops, op.keyOk c.n) : noOverrun c (build c status date ops) :=
  Response.send_no_overrun c ok status date ops hk

/-- header-level core: the size accounting invariant holds after every operation history -/
theorem size_exact (nameLen : Nat → Nat) (n : Nat) (ops : List HOp) (hk : ∀ op ∈ ops, op.keyOk n) :
    (ops.foldl (Headers.apply nameLen) (Headers.empty n)).Inv nameLen n :=
  List.foldlRecOn ops _ (Inv_empty nameLen n) fun h hi op hop => Inv_apply nameLen n h hi op (hk op hop)

/-- **Latest value, nothing removed or stale.**  After any operation the standard-header store reads as the abstract map
(header -> value) updated by that operation: insert sets, remove erases, append joins with ", " — in every state that satisfies the
invariant, hence (`size_exact`) after every history. -/
theorem latest_value (nameLen : Nat → Nat) (n : Nat) (h : Headers) (hi : h.Inv nameLen n) (op : HOp) (hk : op.keyOk n) (k' : Nat) :
    (h.apply nameLen op).std.get k' = absStd h.std.get op k' :=
  std_refines nameLen n h hi.wf op hk k'

/-- **Every live header exactly once**: a line is written for (k, v) iff the store reads v under k, and no header name gets two lines. -/
theorem live_exact (m : IndexMap) (n : Nat) (hw : m.WF n) :
    (∀ k v, (k, v) ∈ m.live ↔ m.get k = some v) ∧ (m.live.map (·.1)).Nodup :=
  lists_live m n hw

/-- **Framing.**  Whatever sequence of public operations built the response (Content-Length itself left to the body setters): a 204 goes
out with no body and no Content-Length; any other response with a body declares exactly the number of body bytes; one without a body
declares `Content-Length: 0` unless its status (1xx, 304) forbids a body anyway. -/
theorem framing (c : Cfg) (ok : c.OK) (status : Nat) (date : Bytes) (ops : List ROp)
    (hk : ∀ op ∈ ops, op.keyOk c.n) (hl : ∀ op ∈ ops, op.leavesCL c) :
    let r := build c status date ops
    r.status = status ∧
    (status = 204 → r.body = none ∧ r.headers.std.get c.kCL = none) ∧
    (status ≠ 204 → ∀ b, r.body = some b → r.headers.std.get c.kCL = some (dec b.length)) ∧
    (status ≠ 204 → r.body = none → mayHaveNoLength status = false → r.headers.std.get c.kCL = some zero) :=
  Response.framing c ok status date ops hk hl

/-! ### framing for every content kind (payload, none, event stream), GET and HEAD: the automaton `Ohkami.Framing` over the body operations of the public API -/

/-- **Never both**: whatever the sequence of body operations (`set_text` / `set_html` / `set_json` / `set_payload`, `drop_content`, `set_stream`), the status
and the method, the completed response does not carry `Content-Length` beside `Transfer-Encoding: chunked` (RFC 9112 6.2) -/
theorem never_both (status : Nat) (ops : List Ohkami.Framing.Op) (head : Bool) :
    ¬ ((Ohkami.Framing.build status ops head).cl.isSome = true ∧ (Ohkami.Framing.build status ops head).te = true) :=
  Ohkami.Framing.never_both status ops head

/-- **204**: no content, no `Content-Length`, no `Transfer-Encoding`, for every history, GET and HEAD -/
theorem no_content_204 (ops : List Ohkami.Framing.Op) (head : Bool) :
    (Ohkami.Framing.build 204 ops head).content = .none ∧ (Ohkami.Framing.build 204 ops head).cl = none ∧ (Ohkami.Framing.build 204 ops head).te = false :=
  Ohkami.Framing.no_content_204 ops head

/-- **The content that is sent is the content that is announced**: an event stream goes out chunked without a declared length, a payload under its own
length and not chunked — also when one replaced the other any number of times -/
theorem content_announced (status : Nat) (ops : List Ohkami.Framing.Op) (h204 : status ≠ 204) :
    ((Ohkami.Framing.build status ops false).content = .stream → (Ohkami.Framing.build status ops false).te = true ∧ (Ohkami.Framing.build status ops false).cl = none) ∧
    (∀ n, (Ohkami.Framing.build status ops false).content = .payload n → (Ohkami.Framing.build status ops false).cl = some n ∧ (Ohkami.Framing.build status ops false).te = false) :=
  Ohkami.Framing.content_announced status ops h204

/-- **The client can determine the end of the message**: a declared length or the chunked coding, unless the status never has content (1xx, 204, 304) -/
theorem end_determinable (status : Nat) (ops : List Ohkami.Framing.Op) :
    (Ohkami.Framing.build status ops false).cl.isSome = true ∨ (Ohkami.Framing.build status ops false).te = true ∨ status = 204 ∨ Ohkami.Framing.noLengthStatus status = true :=
  Ohkami.Framing.end_determinable status ops

/-- a history in which a stream is replaced, dropped and set again (425e3ae repaired the first kind) -/
example : Ohkami.Framing.build 200 [.stream, .payload 5, .drop, .stream, .stream] false = ⟨200, .stream, none, true⟩ ∧
    Ohkami.Framing.build 200 [.stream, .payload 5] true = ⟨200, .none, some 5, false⟩ := by decide

/-- **No field name gets two lines, in whatever spelling it was given.**  For every history of public operations (typed setters, `.x(name, ..)` with
names in any letter case — names of the standard table among them —, cookies, payloads, `drop_content`), every status: among the lines written for
names outside the table no two names are equal ignoring case (`linesFor .. n ≤ 1` for every `n`), and none of them is a name of the table
(`strays = 0`): those are written from the table, where `live_exact` gives one line per name. -/
theorem names_apart (c : Cfg) (status : Nat) (date : Bytes) (ops : List ROp) (hv : ∀ op ∈ ops, op.viaApi) :
    (∀ n, linesFor (build c status date ops).headers.custom n ≤ 1) ∧ strays c (build c status date ops).headers.custom = 0 :=
  Response.names_apart c status date ops hv

/-- a registered name given to `.x` in any spelling is the header of its typed setter -/
theorem x_reaches_the_table (c : Cfg) (h : Headers) (n v : Bytes) (k : Nat) (hk : stdIdx c n = some k) :
    resolveX c h (.set n v) = .insert k v ∧ resolveX c h (.remove n) = .remove k ∧ resolveX c h (.append n v) = .append k v := by
  simp [resolveX, hk]

-- not vacuous: `x-a`, `X-A`, `X-a` are one line; `server` through `.x` is the table's `Server`
example : let c : Cfg := ⟨[[83, 101, 114, 118, 101, 114], [68], [76], [84]], 2, 3, 1, fun _ => []⟩
    let r := build c 200 [49] [.x (.set [120, 45, 97] [49]), .x (.set [88, 45, 65] [50]), .x (.append [88, 45, 97] [51]), .x (.set [115, 101, 114, 118, 101, 114] [52])]
    r.headers.custom = [([120, 45, 97], [50, 44, 32, 51])] ∧ r.headers.std.get 0 = some [52] := by decide

end C03
