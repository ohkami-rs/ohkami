import OhkamiModel.M.OpenApi
import OhkamiModel.P.FangsLookup
/-! # C15 — the generated OpenAPI document describes exactly the application

Statements over ALL application trees (any nesting of mounts, any number of routes, methods, fangs of the five kinds at any level,
any handler signature).  The model is tied to the code by the correspondence check (real `__openapi_document_bytes__` of
generated applications against `document`). -/

namespace Ohkami.OpenApi.C15
open Ohkami.OpenApi

def pathNames (ps : List Param) : List Str := (ps.filter (·.kind = .path)).map (·.name)

/-- on the list of path-parameter names, `assign_path_param_name` fills the first empty name or appends -/
def fill : List Str → Str → List Str
  | [], n => [n]
  | x :: xs, n => if x = [] then n :: xs else x :: fill xs n

theorem pathNames_append (a b : List Param) : pathNames (a ++ b) = pathNames a ++ pathNames b := by
  simp [pathNames]

theorem pathNames_cons (p : Param) (ps : List Param) :
    pathNames (p :: ps) = if p.kind = .path then p.name :: pathNames ps else pathNames ps := by
  simp only [pathNames, List.filter_cons, decide_eq_true_eq]
  split <;> rfl

theorem assign_nil (n : Str) : assign [] n = [⟨.path, n, "string".toList, true⟩] := rfl

theorem assign_cons (p : Param) (ps : List Param) (n : Str) :
    assign (p :: ps) n = if p.kind = .path ∧ p.name = [] then { p with name := n } :: ps else p :: assign ps n := by
  by_cases hp : p.kind = .path ∧ p.name = []
  · simp only [assign, assignIn, if_pos hp]
  · simp only [assign, assignIn, if_neg hp]
    cases assignIn ps n <;> rfl

theorem assign_of_assignIn {ps ps' : List Param} {n : Str} (h : assignIn ps n = some ps') : assign ps n = ps' := by
  simp [assign, h]

theorem assignIn_none (ps : List Param) (n : Str) (h : assignIn ps n = none) : ∀ x ∈ pathNames ps, x ≠ [] := by
  fun_induction assignIn ps n with
  | case1 => simp [pathNames]
  | case2 p ps n hp => cases h
  | case3 p ps n hp ih =>
    have ih := ih (Option.map_eq_none_iff.mp h)
    rw [pathNames_cons]
    split
    · exact List.forall_mem_cons.mpr ⟨fun hn => hp ⟨‹_›, hn⟩, ih⟩
    · exact ih

theorem fill_append (a b : List Str) (n : Str) (h : ∀ x ∈ a, x ≠ []) : fill (a ++ b) n = a ++ fill b n := by
  induction a with
  | nil => rfl
  | cons x xs ih =>
    rw [List.forall_mem_cons] at h
    simp [fill, h.1, ih h.2]

theorem fill_no_empty (l : List Str) (n : Str) (h : ∀ x ∈ l, x ≠ []) : fill l n = l ++ [n] := by
  simpa [fill] using fill_append l [] n h

theorem assign_pathNames (ps : List Param) (n : Str) : pathNames (assign ps n) = fill (pathNames ps) n := by
  induction ps with
  | nil => rfl
  | cons p ps ih =>
    rw [assign_cons, pathNames_cons]
    by_cases hk : p.kind = .path
    · by_cases hn : p.name = []
      · simp [hk, hn, pathNames_cons, fill]
      · simp [hk, hn, pathNames_cons, fill, ih]
    · simp [hk, pathNames_cons, ih]

theorem assignIn_some (ps ps' : List Param) (n : Str) (h : assignIn ps n = some ps') : pathNames ps' = fill (pathNames ps) n :=
  assign_of_assignIn h ▸ assign_pathNames ps n

theorem fill_done (done : List Str) (k : Nat) (n : Str) (hd : ∀ x ∈ done, x ≠ []) :
    fill (done ++ List.replicate k []) n = done ++ [n] ++ List.replicate (k - 1) [] := by
  rw [fill_append _ _ _ hd]
  cases k <;> simp [fill, List.replicate_succ]

theorem fillAll (names done : List Str) (k : Nat) (hn : ∀ x ∈ names, x ≠ []) (hd : ∀ x ∈ done, x ≠ []) :
    names.foldl fill (done ++ List.replicate k []) = done ++ names ++ List.replicate (k - names.length) [] := by
  induction names generalizing done k with
  | nil => simp
  | cons n ns ih =>
    rw [List.forall_mem_cons] at hn
    have hd' : ∀ x ∈ done ++ [n], x ≠ [] := List.forall_mem_append.mpr ⟨hd, by simpa using hn.1⟩
    rw [List.foldl_cons, fill_done done k n hd, ih (done ++ [n]) (k - 1) hn.2 hd']
    simp [Nat.sub_sub, Nat.add_comm]

theorem assignAll_pathNames (ps : List Param) (names : List Str) : pathNames (assignAll ps names) = names.foldl fill (pathNames ps) :=
  (List.foldl_hom pathNames fun ps n => (assign_pathNames ps n).symm).symm

theorem mapThrough_eq (chain : List Fang) (op : Operation) :
    mapThrough chain op = { op with security := op.security ++ chain.filterMap Fang.scheme,
                                    tags := op.tags ++ chain.filterMap (fun | .tag t => some t | _ => none) } := by
  induction chain generalizing op with
  | nil => simp [mapThrough]
  | cons f fs ih =>
    rw [mapThrough, List.foldl_cons, ← mapThrough, ih]
    cases f <;> simp [Fang.mapOperation, Fang.scheme, List.filterMap_cons]

theorem mapThrough_parameters (chain : List Fang) (op : Operation) : (mapThrough chain op).parameters = op.parameters := by
  rw [mapThrough_eq]

theorem pathNames_query (ps : List Param) (h : ∀ p ∈ ps, p.kind = .query) : pathNames ps = [] := by
  simp only [pathNames, List.map_eq_nil_iff, List.filter_eq_nil_iff]
  intro p hp
  simp [h p hp]

theorem sig_pathNames (s : Sig) (hq : ∀ p ∈ s.query, p.kind = .query) : pathNames s.operation.parameters = List.replicate s.pathTys.length [] := by
  rw [Sig.operation, pathNames_append, pathNames_query _ hq, List.append_nil]
  induction s.pathTys with
  | nil => rfl
  | cons t ts ih => simp [pathNames_cons, List.replicate_succ, ih]

/-- **Path parameters.**  For every registered handler, the path parameters of the documented operation are named — in order —
exactly by the `:params` of the route from the root (mount prefixes included), followed by one unnamed leftover per parameter the
handler takes beyond what the route captures (none once `finalize`'s assertion `n_params ≤ route.n_params` holds). -/
theorem path_params_named (f : Flat) (hq : ∀ p ∈ f.sig.query, p.kind = .query) (hn : ∀ x ∈ paramNames f.route, x ≠ []) :
    pathNames f.operation.parameters = paramNames f.route ++ List.replicate (f.sig.pathTys.length - (paramNames f.route).length) [] := by
  simp only [Flat.operation]
  rw [assignAll_pathNames, mapThrough_parameters, sig_pathNames _ hq]
  simpa using fillAll (paramNames f.route) [] f.sig.pathTys.length hn (by simp)

/-- the corollary the property states: under the router's own assertion, every `{p}` of the template is a declared path parameter,
they come in template order, and there is nothing else among the path parameters -/
theorem template_params_declared (f : Flat) (hq : ∀ p ∈ f.sig.query, p.kind = .query) (hn : ∀ x ∈ paramNames f.route, x ≠ [])
    (hfit : f.sig.pathTys.length ≤ (paramNames f.route).length) : pathNames f.operation.parameters = paramNames f.route := by
  rw [path_params_named f hq hn, Nat.sub_eq_zero_of_le hfit]; simp

theorem assign_required (ps : List Param) (n : Str) (hr : ∀ p ∈ ps, p.kind = .path → p.required = true) :
    ∀ p ∈ assign ps n, p.kind = .path → p.required = true := by
  induction ps with
  | nil => simp [assign_nil]
  | cons q qs ih =>
    rw [List.forall_mem_cons] at hr
    rw [assign_cons]
    split
    · exact List.forall_mem_cons.mpr hr
    · exact List.forall_mem_cons.mpr ⟨hr.1, ih hr.2⟩

theorem assignIn_required (ps ps' : List Param) (n : Str) (h : assignIn ps n = some ps') (hr : ∀ p ∈ ps, p.kind = .path → p.required = true) :
    ∀ p ∈ ps', p.kind = .path → p.required = true :=
  assign_of_assignIn h ▸ assign_required ps n hr

/-- every path parameter of every documented operation is `required: true` -/
theorem path_params_required (f : Flat) (hq : ∀ p ∈ f.sig.query, p.kind = .query) : ∀ p ∈ f.operation.parameters, p.kind = .path → p.required = true := by
  simp only [Flat.operation, mapThrough_parameters]
  refine List.foldlRecOn (paramNames f.route) assign ?_ fun ps h n _ => assign_required ps n h
  rw [Sig.operation, List.forall_mem_append]
  exact ⟨by simp, fun p hp hk => by simp [hq p hp] at hk⟩

/-! ### security: a requirement iff an authentication fang guards the handler -/

theorem mapThrough_security (chain : List Fang) (op : Operation) : (mapThrough chain op).security = op.security ++ chain.filterMap Fang.scheme := by
  rw [mapThrough_eq]

/-- the security requirements of a documented operation are exactly the schemes of the authentication fangs around the handler
(its own local fangs, its application's, and every enclosing application's), innermost first -/
theorem security_exact (f : Flat) : f.operation.security = f.chain.filterMap Fang.scheme := by
  simp [Flat.operation, mapThrough_eq, Sig.operation]

theorem isAuth_iff_scheme (g : Fang) : g.isAuth = true ↔ g.scheme ≠ none := by
  cases g <;> simp [Fang.isAuth, Fang.scheme]

theorem security_iff (f : Flat) : f.operation.security ≠ [] ↔ ∃ g ∈ f.chain, g.isAuth = true := by
  rw [security_exact, Ne, List.filterMap_eq_nil_iff]
  simp [isAuth_iff_scheme]

theorem mapThrough_tags (chain : List Fang) (op : Operation) :
    (mapThrough chain op).tags = op.tags ++ chain.filterMap (fun | .tag t => some t | _ => none) := by
  rw [mapThrough_eq]

/-- body and responses are the signature's, whatever surrounds the handler -/
theorem body_responses_exact (f : Flat) : f.operation.body = f.sig.body ∧ f.operation.responses = f.sig.responses := by
  simp [Flat.operation, mapThrough_eq, Sig.operation]

/-- one document entry per registered (route, method), in registration order, at the template of the route -/
theorem pairs_exact (a : App) : (document a).map (fun e => (e.path, e.method)) = (flatten a [] []).map (fun f => (template f.route, f.method)) := by
  simp [document]

theorem seg_template_no_slash (s : Seg) (h : s.clean) : '/' ∉ s.template := by
  cases s with
  | lit t => exact h.1
  | param n => simpa [Seg.template] using h.1

theorem lit_ne_param (a n : Str) (h : (Seg.lit a).clean) : (Seg.lit a).template ≠ (Seg.param n).template :=
  fun e => h.2.1 (congrArg List.head? e)

theorem seg_template_inj (s t : Seg) (hs : s.clean) (ht : t.clean) (h : s.template = t.template) : s = t := by
  cases s with
  | lit a =>
    cases t with
    | lit b => exact congrArg Seg.lit h
    | param n => exact absurd h (lit_ne_param a n hs)
  | param m =>
    cases t with
    | lit b => exact absurd h.symm (lit_ne_param b m ht)
    | param n => exact congrArg Seg.param (by simpa [Seg.template] using h)

theorem seg_template_ne_nil (s : Seg) (h : s.clean) : s.template ≠ [] := by
  cases s with
  | lit t => exact h.2.2
  | param n => simp [Seg.template]

theorem takeWhile_no_slash (a x : Str) (ha : '/' ∉ a) (hx : x = [] ∨ x.head? = some '/') : (a ++ x).takeWhile (· ≠ '/') = a := by
  rw [List.takeWhile_append_of_pos (by simpa using fun c hc => ne_of_mem_of_not_mem hc ha)]
  cases x with
  | nil => simp
  | cons c cs =>
    obtain rfl : c = '/' := by simpa using hx
    simp

theorem prefix_unique (a b x y : Str) (ha : '/' ∉ a) (hb : '/' ∉ b) (hx : x = [] ∨ x.head? = some '/') (hy : y = [] ∨ y.head? = some '/')
    (h : a ++ x = b ++ y) : a = b ∧ x = y := by
  have e : a = b := by rw [← takeWhile_no_slash a x ha hx, h, takeWhile_no_slash b y hb hy]
  subst e
  exact ⟨rfl, List.append_cancel_left h⟩

def render (route : List Seg) : Str := (route.map fun s => '/' :: s.template).flatten

theorem render_cons (s : Seg) (rest : List Seg) : render (s :: rest) = '/' :: (s.template ++ render rest) := rfl

theorem template_cons (s : Seg) (rest : List Seg) : template (s :: rest) = '/' :: (s.template ++ render rest) := rfl

theorem render_head (r : List Seg) : render r = [] ∨ (render r).head? = some '/' := by
  cases r with
  | nil => exact .inl rfl
  | cons s rest => exact .inr rfl

theorem render_inj (r1 r2 : List Seg) (h1 : ∀ s ∈ r1, s.clean) (h2 : ∀ s ∈ r2, s.clean) (h : render r1 = render r2) : r1 = r2 := by
  induction r1 generalizing r2 with
  | nil =>
    cases r2 with
    | nil => rfl
    | cons s rest => simp [render] at h
  | cons s rest ih =>
    cases r2 with
    | nil => simp [render] at h
    | cons t rest2 =>
      rw [List.forall_mem_cons] at h1 h2
      rw [render_cons, render_cons, List.cons.injEq] at h
      obtain ⟨ha, hb⟩ := prefix_unique _ _ _ _ (seg_template_no_slash s h1.1) (seg_template_no_slash t h2.1) (render_head rest) (render_head rest2) h.2
      rw [seg_template_inj s t h1.1 h2.1 ha, ih rest2 h1.2 h2.2 hb]

theorem template_cons_ne (t : Seg) (rest : List Seg) (ht : t.clean) : template (t :: rest) ≠ template [] := by
  rw [template_cons]
  simp [template, seg_template_ne_nil t ht]

/-- **Templates are faithful**: two routes with the same path template are the same route — so the path/method pairs of the
document are in one-to-one correspondence with the registered route/method pairs. -/
theorem template_inj (r1 r2 : List Seg) (h1 : ∀ s ∈ r1, s.clean) (h2 : ∀ s ∈ r2, s.clean) (h : template r1 = template r2) : r1 = r2 := by
  cases r1 with
  | nil =>
    cases r2 with
    | nil => rfl
    | cons t rest2 => exact absurd h.symm (template_cons_ne t rest2 (h2 t (List.mem_cons_self ..)))
  | cons s rest =>
    cases r2 with
    | nil => exact absurd h (template_cons_ne s rest (h1 s (List.mem_cons_self ..)))
    | cons t rest2 => exact render_inj _ _ h1 h2 h

/-! ### every reachable handler is documented, every documented operation belongs to a handler -/

theorem documented_iff_registered (a : App) (p : Str) (m : Method) :
    (∃ e ∈ document a, e.path = p ∧ e.method = m) ↔ ∃ f ∈ flatten a [] [], template f.route = p ∧ f.method = m := by
  simpa using congrArg ((p, m) ∈ ·) (pairs_exact a)

/-- **Every registered (route, method) pair is found**: `gen_openapi_doc` looks each route up by searching the finalized router of the method with
the route's own literal (`router.search_target(route)`), and takes the operation of the node it lands on.  On the router model shared with C01 / C04
(`build`, `finalize` with fang scopes and compression, statics-first `search`): for every application tree whose static segments do not begin with `:`
(such a segment is a param by `RouteSegment` parsing), every route of the flattened configuration, spelled with its params as `:name`, is answered by
its own handler — no registered pair is skipped or documented with another route's operation. -/
theorem route_literal_found (cfg : Ohkami.Fangs.App) (t : Ohkami.Fangs.BN) (r : Ohkami.Route) (h : Nat) (lit : List (List UInt8)) (F G : Nat)
    (hc : Ohkami.Fangs.CfgOK cfg) (hb : Ohkami.Fangs.build cfg = some t) (hr : (r, h) ∈ Ohkami.Fangs.flatRoutes cfg)
    (hl : Ohkami.Fangs.LitOf r lit) (hF : r.length ≤ F) (hG : r.length < G) :
    (Ohkami.Fangs.search G (Ohkami.Fangs.finalize true F t false) lit).2 = some h := by
  obtain ⟨hperm, hok⟩ := Ohkami.Fangs.routes_build cfg t hb
  exact Ohkami.Fangs.kid_found F G t false r h lit ((Ohkami.Fangs.treeOK_iff t).mp hok)
    ((Ohkami.Fangs.nd_iff t).mp (Ohkami.Fangs.nd_build cfg t hb)) (Ohkami.Fangs.noColon_builds.1 cfg t hb hc)
    (hperm.mem_iff.mpr hr) (by rw [Ohkami.Fangs.build_pat cfg t hb]; exact hl) hF hG

private def sig1 : Sig := { pathTys := [['i']], query := [⟨.query, ['q'], ['s'], true⟩], body := some ['j'], responses := [200] }
private def app1 : App := .mk [.tag ['t']] [⟨[.lit ['u'], .param ['i', 'd']], [(.GET, sig1)], [.jwt]⟩]
  [([.lit ['a'], .param ['v']], .mk [.basic] [⟨[.lit ['x'], .param ['k']], [(.POST, sig1)], []⟩] [])]

example : (document app1).map (fun e => (String.ofList e.path, pathNames e.operation.parameters, e.operation.security.length, e.operation.tags.length)) =
    [("/u/{id}", [['i', 'd']], 1, 1), ("/a/{v}/x/{k}", [['v'], ['k']], 1, 1)] := by decide

end Ohkami.OpenApi.C15
